import XcmModel.Btcp
/-!
A call of `Btcp.send` / `receive` / `finish` is refused (by the state gate after `try_establish`, or by the kernel),
and only `state` moves, or it moves `n` bytes and counts them.  The invariants of `C02.Conn`, a connection with its
ghost history, use only this.
-/
namespace XcmModel.Btcp

theorem send_spec (s : St) (buf : Bytes) (est : List EstAns) (k : KSend) :
    (∃ st e, send s buf est k = ({ s with state := st }, .err e)) ∨
    (∃ n, n ≤ buf.length ∧ (0 < buf.length → 0 < n) ∧
      send s buf est k =
        ({ s with state := .ready, tx := s.tx ++ buf.take n,
                  cnt := { s.cnt with fromApp := s.cnt.fromApp + n, toLower := s.cnt.toLower + n } },
         .n n [])) := by
  fun_cases send s buf est k with
  | case6 _ _ kk n =>  -- `ready`, and the kernel takes `n` bytes
    refine .inr ⟨n, ?_, fun h => ?_, rfl⟩ <;> unfold n
    · split
      next => exact Nat.zero_le _
      next h0 => exact Nat.max_le.2 ⟨Nat.pos_of_ne_zero h0, Nat.min_le_right kk _⟩
    · rw [if_neg (Nat.ne_of_gt h)]
      exact Nat.le_max_left 1 _
  | _ => exact .inl ⟨_, _, rfl⟩

theorem receive_spec (s : St) (cap : Nat) (est : List EstAns) (k : KRecv) :
    (∃ st r, receive s cap est k = ({ s with state := st }, r) ∧ (r = .n 0 [] ∨ ∃ e, r = .err e)) ∨
    (∃ got, got.length ≤ cap ∧
      receive s cap est k =
        ({ s with state := .ready, rxd := s.rxd ++ got,
                  cnt := { s.cnt with fromLower := s.cnt.fromLower + got.length,
                                      toApp := s.cnt.toApp + got.length } },
         .n got.length got)) := by
  fun_cases receive s cap est k with
  | case7 _ _ bs => exact .inr ⟨bs.take cap, List.length_take_le cap bs, rfl⟩
  -- the paths that return 0: the gate in `closed`, a `recv()` of nothing, end of stream
  | case2 | case6 | case8 => exact .inl ⟨_, _, rfl, .inl rfl⟩
  | _ => exact .inl ⟨_, _, rfl, .inr ⟨_, rfl⟩⟩

theorem finish_spec (s : St) (est : List EstAns) :
    ∃ st r, finish s est = ({ s with state := st }, r) := by
  fun_cases finish s est <;> exact ⟨_, _, rfl⟩

end XcmModel.Btcp

namespace XcmModel.C02
open XcmModel.Btcp

inductive Op where
  | send (buf : Bytes) (est : List EstAns) (k : KSend)
  | receive (cap : Nat) (est : List EstAns) (k : KRecv)
  | finish (est : List EstAns)
  deriving Repr

structure Conn where
  s : St
  /-- concatenation of the ranges `buf[0..rc)` of the sends that returned `rc ≥ 0` -/
  accepted : Bytes := []
  /-- concatenation of what the receives returned -/
  returned : Bytes := []
  results : List Res := []

def Conn.step (c : Conn) : Op → Conn
  | .send buf est k =>
    let (s', r) := send c.s buf est k
    match r with
    | .n n _ => { c with s := s', results := c.results ++ [r], accepted := c.accepted ++ buf.take n }
    | .err _ => { c with s := s', results := c.results ++ [r] }
  | .receive cap est k =>
    let (s', r) := receive c.s cap est k
    match r with
    | .n _ p => { c with s := s', results := c.results ++ [r], returned := c.returned ++ p }
    | .err _ => { c with s := s', results := c.results ++ [r] }
  | .finish est =>
    let (s', r) := finish c.s est
    { c with s := s', results := c.results ++ [r] }

def Conn.run (c : Conn) (ops : List Op) : Conn := ops.foldl Conn.step c

def Conn.init (st : CState) : Conn := { s := { state := st } }

/-- the kernel has taken what the sends reported as accepted and given what the receives returned -/
structure Inv (c : Conn) : Prop where
  tx : c.s.tx = c.accepted
  rx : c.s.rxd = c.returned

/-- `a`: the bytes the step hands to the kernel, `r`: those it obtains (none when the call is refused).  `c'` is a
variable (users give `rfl`) so that `Conn.step` unfolds once, in `h`. -/
theorem step_spec (c : Conn) (op : Op) {c' : Conn} (h : c.step op = c') : ∃ a r : Bytes,
    c'.accepted = c.accepted ++ a ∧ c'.s.tx = c.s.tx ++ a ∧
    c'.returned = c.returned ++ r ∧ c'.s.rxd = c.s.rxd ++ r ∧
    c'.s.cnt =
      { fromApp := c.s.cnt.fromApp + a.length, toLower := c.s.cnt.toLower + a.length,
        fromLower := c.s.cnt.fromLower + r.length, toApp := c.s.cnt.toApp + r.length } := by
  have nil (l : Bytes) : l = l ++ [] := (List.append_nil l).symm
  cases op with
  | send buf est k =>
    rcases send_spec c.s buf est k with ⟨st, e, hs⟩ | ⟨n, hn, _, hs⟩ <;> simp only [Conn.step, hs] at h <;> subst h
    · exact ⟨[], [], nil _, nil _, nil _, nil _, rfl⟩
    · refine ⟨buf.take n, [], rfl, rfl, nil _, nil _, ?_⟩
      rw [List.length_take_of_le hn]; rfl
  | receive cap est k =>
    rcases receive_spec c.s cap est k with ⟨st, r, hs, rfl | ⟨e, rfl⟩⟩ | ⟨got, _, hs⟩ <;>
      simp only [Conn.step, hs] at h <;> subst h
    · exact ⟨[], [], nil _, nil _, rfl, nil _, rfl⟩
    · exact ⟨[], [], nil _, nil _, nil _, nil _, rfl⟩
    · exact ⟨[], got, nil _, nil _, rfl, rfl, rfl⟩
  | finish est =>
    obtain ⟨st, r, hs⟩ := finish_spec c.s est
    simp only [Conn.step, hs] at h
    subst h
    exact ⟨[], [], nil _, nil _, nil _, nil _, rfl⟩

theorem inv_step {c : Conn} (h : Inv c) (op : Op) : Inv (c.step op) := by
  obtain ⟨a, r, ha, htx, hr, hrx, _⟩ := step_spec c op rfl
  exact ⟨by rw [htx, ha, h.tx], by rw [hrx, hr, h.rx]⟩

theorem inv_run (ops : List Op) {c : Conn} (h : Inv c) : Inv (c.run ops) :=
  List.foldlRecOn ops Conn.step h fun _ h op _ => inv_step h op

end XcmModel.C02

namespace XcmModel.C17btcp

def CntInv (c : C02.Conn) : Prop :=
  c.s.cnt.fromApp = c.accepted.length ∧ c.s.cnt.toLower = c.accepted.length ∧
  c.s.cnt.fromLower = c.returned.length ∧ c.s.cnt.toApp = c.returned.length

theorem cntInv_step {c : C02.Conn} (h : CntInv c) (op : C02.Op) : CntInv (c.step op) := by
  obtain ⟨a, r, ha, _, hr, _, hc⟩ := C02.step_spec c op rfl
  obtain ⟨h1, h2, h3, h4⟩ := h
  simp only [CntInv, hc, ha, hr, List.length_append, h1, h2, h3, h4, and_self]

theorem cntInv_run (ops : List C02.Op) {c : C02.Conn} (h : CntInv c) : CntInv (c.run ops) :=
  List.foldlRecOn ops C02.Conn.step h fun _ h op _ => cntInv_step h op

end XcmModel.C17btcp

namespace XcmModel.C06
open XcmModel.Btcp XcmModel.C02

def Terminal : CState → Prop
  | .closed => True
  | .bad _ => True
  | _ => False

theorem tryEstablish_terminal (st : CState) (ans : List EstAns) (h : Terminal st) :
    (tryEstablish st ans).1 = st := by
  cases st with
  | closed | bad => rfl
  | _ => exact h.elim

theorem step_terminal {c : Conn} (h : Terminal c.s.state) (op : Op) : (c.step op).s.state = c.s.state := by
  -- a terminal state is a fixed point of `tryEstablish` and decides every gate: the calls compute
  obtain ⟨⟨st, _, _, _⟩, _, _, _⟩ := c
  cases st with
  | closed | bad => cases op <;> rfl
  | _ => exact h.elim

end XcmModel.C06
