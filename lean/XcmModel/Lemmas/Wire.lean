import XcmModel.Wire
/-! The header round trip and, from it, unique decodability of a stream of frames (`frames_prefix`). -/
namespace XcmModel.Wire

@[simp] theorem be32_length (n : Nat) : (be32 n).length = 4 := rfl

theorem rd32_be32_append (n : Nat) (h : n < 2 ^ 32) (r : Bytes) : rd32 (be32 n ++ r) = n := by
  -- the base-256 expansion of `n`, one digit at a time
  have e : n % (16777216 * 256) = _ := Nat.mod_mul
  rw [Nat.mod_eq_of_lt h, Nat.mod_mul (a := 65536) (b := 256), Nat.mod_mul (a := 256) (b := 256)] at e
  simp only [be32, rd32, List.cons_append, UInt8.toNat_ofNat', Nat.mod_mod]
  exact Eq.trans (by ac_rfl) e.symm

theorem exists_hdr_of_le_length {a : Bytes} (h : 4 ≤ a.length) : ∃ a0 a1 a2 a3 t, a = a0 :: a1 :: a2 :: a3 :: t := by
  rcases a with _ | ⟨a0, _ | ⟨a1, _ | ⟨a2, _ | ⟨a3, t⟩⟩⟩⟩
  iterate 4 simp at h
  exact ⟨a0, a1, a2, a3, t, rfl⟩

theorem rd32_append_of_length {a : Bytes} (h : 4 ≤ a.length) (r : Bytes) : rd32 (a ++ r) = rd32 a := by
  obtain ⟨a0, a1, a2, a3, t, rfl⟩ := exists_hdr_of_le_length h
  rfl

@[simp] theorem frame_length (m : Bytes) : (frame m).length = 4 + m.length := by
  simp [frame]

theorem frame_ne_nil (m : Bytes) : frame m ≠ [] := List.cons_ne_nil _ _

theorem rd32_frame_append (m : Bytes) (h : m.length < 2 ^ 32) (r : Bytes) :
    rd32 (frame m ++ r) = m.length := by
  simp only [frame, List.append_assoc]; exact rd32_be32_append _ h _

theorem ofNat_toNat (a : UInt8) : UInt8.ofNat a.toNat = a := by simp

theorem divmod256 (q r : Nat) (h : r < 256) : (q * 256 + r) / 256 = q ∧ (q * 256 + r) % 256 = r :=
  (Nat.div_mod_unique (by decide)).2 ⟨by rw [Nat.add_comm, Nat.mul_comm], h⟩

theorem be32_rd32 {r : Bytes} (h : 4 ≤ r.length) : be32 (rd32 r) = r.take 4 := by
  obtain ⟨a, b, c, d, t, rfl⟩ := exists_hdr_of_le_length h
  -- in Horner form the number gives up its digits one `divmod256` at a time
  have e : rd32 (a :: b :: c :: d :: t) = ((a.toNat * 256 + b.toNat) * 256 + c.toNat) * 256 + d.toNat := by
    simp only [rd32, Nat.add_mul, Nat.mul_assoc]
  obtain ⟨d1, m1⟩ := divmod256 ((a.toNat * 256 + b.toNat) * 256 + c.toNat) d.toNat d.toNat_lt
  obtain ⟨d2, m2⟩ := divmod256 (a.toNat * 256 + b.toNat) c.toNat c.toNat_lt
  obtain ⟨d3, m3⟩ := divmod256 a.toNat b.toNat b.toNat_lt
  rw [be32, e, show 16777216 = 256 * 256 * 256 from rfl, show 65536 = 256 * 256 from rfl,
    ← Nat.div_div_eq_div_mul, ← Nat.div_div_eq_div_mul, d1, d2, d3, m1, m2, m3, Nat.mod_eq_of_lt a.toNat_lt]
  simp only [UInt8.ofNat_toNat, List.take_succ_cons, List.take_zero]

theorem eq_frame_of_complete (r : Bytes) (h4 : 4 ≤ r.length) (hl : r.length = 4 + rd32 r) :
    r = frame (r.drop 4) := by
  rw [frame, List.length_drop, hl, Nat.add_sub_cancel_left, be32_rd32 h4, List.take_append_drop]

theorem frames_nil : frames [] = [] := rfl

theorem frames_cons (m : Bytes) (ms : List Bytes) : frames (m :: ms) = frame m ++ frames ms := by
  simp [frames]

theorem frames_append (xs ys : List Bytes) : frames (xs ++ ys) = frames xs ++ frames ys := by
  simp [frames]

theorem valid_lt {m : Bytes} (h : Valid m) : m.length < 2 ^ 32 := Nat.lt_of_le_of_lt h.2 (by decide)

theorem frames_prefix (ds as : List Bytes) (r : Bytes)
    (hd : ∀ d ∈ ds, d.length < 2 ^ 32) (ha : ∀ a ∈ as, a.length < 2 ^ 32)
    (h : frames ds ++ r = frames as) : ds <+: as := by
  induction ds generalizing as with
  | nil => exact List.nil_prefix
  | cons d ds ih =>
    cases as with
    | nil =>
      simp only [frames_cons, frames_nil, List.append_assoc] at h
      exact absurd (List.append_eq_nil_iff.mp h).1 (frame_ne_nil d)
    | cons a as =>
      simp only [frames_cons, List.append_assoc] at h
      -- both streams begin with the same header, so the first frames are equally long
      have e1 : rd32 (frame d ++ (frames ds ++ r)) = d.length := rd32_frame_append d (hd d List.mem_cons_self) _
      have e2 : rd32 (frame a ++ frames as) = a.length := rd32_frame_append a (ha a List.mem_cons_self) _
      rw [h] at e1
      have hlen : d.length = a.length := by rw [← e1, e2]
      obtain ⟨hf, hrest⟩ := List.append_inj h (by rw [frame_length, frame_length, hlen])
      obtain rfl : d = a := by
        simp only [frame, hlen] at hf
        exact List.append_cancel_left hf
      exact (List.prefix_cons_inj d).mpr (ih as (fun x hx => hd x (List.mem_cons_of_mem _ hx))
        (fun x hx => ha x (List.mem_cons_of_mem _ hx)) hrest)

end XcmModel.Wire
