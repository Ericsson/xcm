import XcmModel.Lemmas.Btls
/-
  `conn_update` of xcm_tp_btls.c on a ready connection: when the bell rings, and what the TCP socket below is watched
  for otherwise.
-/
namespace XcmModel.Btls

/-- the exact guard of the bell of a ready connection -/
def Rings (s : St) (cond : Nat) (hp : Bool) : Prop :=
  cond ≠ 0 ∧ ((cond &&& RECEIVABLE ≠ 0 ∧ hp = true) ∨ s.sslCondition = 0 ∨
              (cond ≠ s.sslCondition ∧ cond ≠ (SENDABLE ||| RECEIVABLE)))

/-- what the TCP socket below is watched for when the bell of a ready connection does not ring -/
def watch (s : St) (cond : Nat) : Nat :=
  if cond = 0 then 0
  else if cond = s.sslCondition then s.sslWants
  else if s.sslCondition = SENDABLE then
    if s.sslWants = RECEIVABLE then RECEIVABLE
    else if s.sslWants = SENDABLE then SENDABLE ||| RECEIVABLE
    else 0
  else SENDABLE ||| RECEIVABLE

/-- what retained output adds to what the socket below is watched for: what the last flush attempt needed -/
def flushWatch (s : St) : Nat :=
  if s.pend.isEmpty then 0 else if s.pendWants ≠ 0 then s.pendWants else SENDABLE

variable {s : St}

theorem connUpdate_bell (s : St) (cond : Nat) (hp : Bool) : (connUpdate s cond hp).1 = (connUpdateCore s cond hp).1 :=
  (apply_ite Prod.fst _ _ _).trans (ite_self _)

theorem core_ready (hs : s.state = .ready) (cond : Nat) (hp : Bool) :
    (Rings s cond hp ∧ connUpdateCore s cond hp = (true, 0, false, false)) ∨
    (¬ Rings s cond hp ∧ connUpdateCore s cond hp = (false, watch s cond, true, false)) := by
  unfold connUpdateCore watch
  rw [hs]
  dsimp only
  -- rung by rung with `by_cases` and `rw [if_pos _]`: a `split` on the whole ladder is slow
  by_cases h0 : cond = 0
  · rw [if_pos h0, if_pos h0]; exact Or.inr ⟨fun g => g.1 h0, rfl⟩
  rw [if_neg h0, if_neg h0]
  by_cases h1 : cond &&& RECEIVABLE ≠ 0 ∧ hp = true
  · rw [if_pos h1]; exact Or.inl ⟨⟨h0, Or.inl h1⟩, rfl⟩
  rw [if_neg h1]
  by_cases h2 : s.sslCondition = 0
  · rw [if_pos h2]; exact Or.inl ⟨⟨h0, Or.inr (Or.inl h2)⟩, rfl⟩
  rw [if_neg h2]
  by_cases h3 : cond = s.sslCondition
  · rw [if_pos h3, if_pos h3]
    exact Or.inr ⟨fun g => g.2.elim h1 (fun g => g.elim h2 (fun g => g.1 h3)), rfl⟩
  rw [if_neg h3, if_neg h3]
  by_cases h4 : cond = (SENDABLE ||| RECEIVABLE)
  · rw [if_pos h4]
    -- the inner test of `hasPending` is dead: with both conditions awaited the second rung has fired
    have h5 : ¬ hp = true := fun h5 => h1 ⟨by rw [h4]; decide, h5⟩
    rw [if_neg h5]
    refine Or.inr ⟨fun g => g.2.elim h1 (fun g => g.elim h2 (fun g => g.2 h4)), ?_⟩
    -- the rest of the two ladders makes the same tests: the answer is `watch`'s under the tuple
    simp only [apply_ite (fun w : Nat => (false, w, true, false))]
  · rw [if_neg h4]; exact Or.inl ⟨⟨h0, Or.inr (Or.inr ⟨h3, h4⟩)⟩, rfl⟩

theorem update_ready (hs : s.state = .ready) (cond : Nat) (hp : Bool) :
    (Rings s cond hp ∧ connUpdate s cond hp = (true, flushWatch s, false, false)) ∨
    (¬ Rings s cond hp ∧ connUpdate s cond hp = (false, watch s cond ||| flushWatch s, true, false)) := by
  unfold connUpdate flushWatch
  by_cases he : s.pend.isEmpty = true
  · rw [if_neg (fun h => h.2 he), if_pos he, Nat.or_zero]
    exact core_ready hs cond hp
  · rw [if_pos ⟨hs, he⟩, if_neg he]
    rcases core_ready hs cond hp with ⟨g, e⟩ | ⟨g, e⟩ <;> rw [e]
    · exact Or.inl ⟨g, by rw [Nat.zero_or]⟩
    · exact Or.inr ⟨g, rfl⟩

theorem isRS_ne_zero {n : Nat} (h : isRS n) : n ≠ 0 := by
  rcases h with h | h <;> rw [h] <;> decide

theorem watch_ne_zero (hi : WInv s) {cond : Nat} {hp : Bool} (hc : cond ≠ 0) (g : ¬ Rings s cond hp) : watch s cond ≠ 0 := by
  have h2 : s.sslCondition ≠ 0 := fun h => g ⟨hc, Or.inr (Or.inl h)⟩
  obtain ⟨hw, _⟩ := hi.condWants h2
  unfold watch
  rw [if_neg hc]
  by_cases h3 : cond = s.sslCondition
  · rw [if_pos h3]; exact isRS_ne_zero hw
  rw [if_neg h3]
  by_cases h6 : s.sslCondition = SENDABLE
  · rw [if_pos h6]
    rcases hw with h | h
    · rw [if_pos h]; decide
    · rw [h]; decide
  · rw [if_neg h6]; decide

theorem flushWatch_ne_zero (hp : s.pend ≠ []) : flushWatch s ≠ 0 := by
  unfold flushWatch
  rw [if_neg (fun h => hp (List.isEmpty_iff.mp h))]
  split
  · assumption
  · decide

end XcmModel.Btls
