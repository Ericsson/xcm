import XcmModel.Framing
import XcmModel.Lemmas.Wire
/-! Per function of the framing layer, from one walk (`*_cases`; the flush by functional induction): a contract
(`*_spec`) for a state whose half concerned is in order (`SWf`, `RbufOk`), and a frame condition (`*_frame`; not
`Wire.frame`) for any state: the send path leaves `recvHalf` alone, the receive path `sendHalf`, no counter falls. -/
namespace XcmModel.C17
open XcmModel.Framing

/-- the order of `C17_monotone`; the frames below carry it -/
def Cnts.le (a b : Cnts) : Prop :=
  a.toAppB ≤ b.toAppB ∧ a.fromAppB ≤ b.fromAppB ∧ a.toLowerB ≤ b.toLowerB ∧ a.fromLowerB ≤ b.fromLowerB ∧
  a.toAppM ≤ b.toAppM ∧ a.fromAppM ≤ b.fromAppM ∧ a.toLowerM ≤ b.toLowerM ∧ a.fromLowerM ≤ b.fromLowerM

theorem Cnts.le_refl (a : Cnts) : Cnts.le a a := by simp [Cnts.le]

theorem Cnts.le_trans {a b c : Cnts} (h1 : Cnts.le a b) (h2 : Cnts.le b c) : Cnts.le a c := by
  obtain ⟨a1, a2, a3, a4, a5, a6, a7, a8⟩ := h1
  obtain ⟨b1, b2, b3, b4, b5, b6, b7, b8⟩ := h2
  exact ⟨Nat.le_trans a1 b1, Nat.le_trans a2 b2, Nat.le_trans a3 b3, Nat.le_trans a4 b4, Nat.le_trans a5 b5,
    Nat.le_trans a6 b6, Nat.le_trans a7 b7, Nat.le_trans a8 b8⟩

end XcmModel.C17

namespace XcmModel.Framing
open XcmModel.Wire XcmModel.C17

/-- `send_mbuf` and `mbuf_sent` between calls -/
def SWf (s : St) : Prop := (s.sbuf = [] ∧ s.sent = 0) ∨ s.sent < s.sbuf.length

/-- everything committed to the wire, taken by the lower layer or not yet -/
def wirePending (s : St) (env : Env) : Bytes := env.tx ++ s.sbuf.drop s.sent

/-- what `try_finish_send` does from a state with `SWf`; `r` is what it returns -/
structure TfsSpec (s : St) (env : Env) (r : St × Env × Option Nat × List SAns) : Prop where
  wf : SWf r.1
  wire : wirePending r.1 r.2.1 = wirePending s env
  rbuf : r.1.rbuf = s.rbuf
  bad : r.1.bad = s.bad
  rx : r.2.1.rx = env.rx
  rxEnd : r.2.1.rxEnd = env.rxEnd
  done : r.2.2.1 = none → r.1.sbuf = [] ∧ r.1.sent = 0
  fail : ∀ e, r.2.2.1 = some e → r.1.sbuf = s.sbuf ∧ s.sbuf ≠ [] ∧ (e ≠ EAGAIN → r.2.1.txErr = some e)
  sticky : ∀ e0, env.txErr = some e0 → r.2.1 = env ∧ r.1 = s ∧ (s.sbuf ≠ [] → r.2.2.1 = some e0)
  txErrMono : ∀ e0, env.txErr = some e0 → r.2.1.txErr = some e0
  cntSame : (s.sbuf = [] ∨ r.2.2.1 ≠ none) → r.1.cnt = s.cnt
  cntDone : s.sbuf ≠ [] → r.2.2.1 = none →
      r.1.cnt = { s.cnt with toLowerB := s.cnt.toLowerB + rd32 s.sbuf, toLowerM := s.cnt.toLowerM + 1 }
  txGrow : ∃ d, r.2.1.tx = env.tx ++ d

theorem tfs_idle (ans : List SAns) (s : St) (env : Env) (h : s.sbuf = []) :
    tryFinishSendAux ans s env = (s, env, none, ans) := by
  cases ans <;> exact (tryFinishSendAux.eq_def ..).trans (if_pos (List.isEmpty_iff.mpr h))

theorem tfs_spec (ans : List SAns) (s : St) (env : Env) (hw : SWf s) :
    TfsSpec s env (tryFinishSendAux ans s env) := by
  -- nothing buffered (1, 4); lower layer dead (2, 5); the script empty (3); else its first answer fails, EAGAIN or for
  -- good (6), or accepts bytes, which completes the frame (7) or not (8)
  fun_induction tryFinishSendAux ans s env with
  | case1 s env h0 | case4 _ _ s env h0 =>
    have h0 := List.isEmpty_iff.mp h0
    have h1 : s.sent = 0 := hw.elim (·.2) (fun h => by rw [h0] at h; cases h)
    exact ⟨hw, rfl, rfl, rfl, rfl, rfl, fun _ => ⟨h0, h1⟩, fun _ => nofun,
      fun _ _ => ⟨rfl, rfl, fun hne => absurd h0 hne⟩, fun _ h => h, fun _ => rfl,
      fun hne => absurd h0 hne, [], (List.append_nil _).symm⟩
  | case2 s env hne e hte | case5 _ _ s env hne e hte =>
    exact ⟨hw, rfl, rfl, rfl, rfl, rfl, nofun, fun e' h => ⟨rfl, mt List.isEmpty_iff.mpr hne, fun _ => hte.trans h⟩,
      fun e0 h0 => ⟨rfl, rfl, fun _ => hte.symm.trans h0⟩, fun _ h => h, fun _ => rfl,
      fun _ => nofun, [], (List.append_nil _).symm⟩
  | case3 s env hne hte =>
    exact ⟨hw, rfl, rfl, rfl, rfl, rfl, nofun,
      fun e' h => ⟨rfl, mt List.isEmpty_iff.mpr hne, fun h' => absurd (Option.some.inj h).symm h'⟩,
      hte.symm ▸ nofun, fun _ h => h, fun _ => rfl, fun _ => nofun,
      [], (List.append_nil _).symm⟩
  | case6 t s env hne hte e =>
    split
    next hea =>
      exact ⟨hw, rfl, rfl, rfl, rfl, rfl, nofun,
        fun e' h => ⟨rfl, mt List.isEmpty_iff.mpr hne, fun h' => absurd ((Option.some.inj h).symm.trans hea) h'⟩,
        hte.symm ▸ nofun, fun _ h => h, fun _ => rfl, fun _ => nofun,
        [], (List.append_nil _).symm⟩
    next =>
      exact ⟨hw, rfl, rfl, rfl, rfl, rfl, nofun, fun e' h => ⟨rfl, mt List.isEmpty_iff.mpr hne, fun _ => h⟩,
        hte.symm ▸ nofun, hte.symm ▸ nofun, fun _ => rfl,
        fun _ => nofun, [], (List.append_nil _).symm⟩
  | case7 _ s env hne hte _ _ k' env' hfin _ =>
    have htk : (s.sbuf.drop s.sent).take k' = s.sbuf.drop s.sent :=
      List.take_of_length_le (Nat.le_of_eq (List.length_drop.trans (Nat.sub_eq_of_eq_add' hfin.symm)))
    exact ⟨Or.inl ⟨rfl, rfl⟩, by simp only [wirePending, env', htk, List.drop_nil, List.append_nil], rfl, rfl, rfl, rfl,
      fun _ => ⟨rfl, rfl⟩, fun _ => nofun,
      hte.symm ▸ nofun, hte.symm ▸ nofun,
      fun h => h.elim (absurd · (mt List.isEmpty_iff.mpr hne)) (absurd rfl), fun _ _ => rfl, _, rfl⟩
  | case8 _ s env hne hte _ _ k' env' hfin ih =>
    have hne := mt List.isEmpty_iff.mpr hne
    have hlt : s.sent < s.sbuf.length := hw.elim (fun h => absurd h.1 hne) id
    have hk : s.sent + k' < s.sbuf.length := Nat.lt_of_le_of_ne (Nat.add_le_of_le_sub' (Nat.le_of_lt hlt)
      (Nat.max_le.mpr ⟨Nat.sub_pos_of_lt hlt, Nat.min_le_right _ _⟩)) hfin
    have sp := ih (Or.inr hk)
    -- the rest of the flush starts from a state that differs in `sent` and `tx` only
    exact { sp with
      wire := by
        rw [sp.wire]
        simp only [wirePending, env', List.append_assoc, ← List.drop_drop, List.take_append_drop]
      sticky := hte.symm ▸ nofun
      txGrow := have ⟨_, hd⟩ := sp.txGrow; ⟨_, hd.trans (List.append_assoc _ _ _)⟩ }

def RCntSame (s' s : St) : Prop :=
  s'.cnt.toAppM = s.cnt.toAppM ∧ s'.cnt.toAppB = s.cnt.toAppB ∧
  s'.cnt.fromLowerM = s.cnt.fromLowerM ∧ s'.cnt.fromLowerB = s.cnt.fromLowerB

theorem RCntSame.refl (s : St) : RCntSame s s := ⟨rfl, rfl, rfl, rfl⟩

/-- What the receive path reads and writes.  That the send path leaves it alone is an equation, which a step that
writes only the other half keeps by `rfl`. -/
structure RecvHalf where
  rbuf : Bytes
  bad : Option Nat
  rx : List Bytes
  (toAppM toAppB fromLowerM fromLowerB : Nat)

def recvHalf (s : St) (env : Env) : RecvHalf :=
  ⟨s.rbuf, s.bad, env.rx, s.cnt.toAppM, s.cnt.toAppB, s.cnt.fromLowerM, s.cnt.fromLowerB⟩

/-- the same for the send path, which the receive path leaves alone once it has flushed -/
structure SendHalf where
  sbuf : Bytes
  sent : Nat
  tx : Bytes
  txErr : Option Nat
  (fromAppM fromAppB toLowerM toLowerB : Nat)

def sendHalf (s : St) (env : Env) : SendHalf :=
  ⟨s.sbuf, s.sent, env.tx, env.txErr, s.cnt.fromAppM, s.cnt.fromAppB, s.cnt.toLowerM, s.cnt.toLowerB⟩

/-- `RecvHalf` lists the counters in the order of `RCntSame` -/
theorem RCntSame.of_recvHalf {s s' : St} {env env' : Env} (h : recvHalf s' env' = recvHalf s env) : RCntSame s' s :=
  (RecvHalf.mk.inj h).2.2.2

theorem tfs_frame {ans : List SAns} {s : St} {env : Env} {s' : St} {env' : Env} {r : Option Nat}
    {ans' : List SAns} (h : tryFinishSendAux ans s env = (s', env', r, ans')) :
    recvHalf s' env' = recvHalf s env ∧ Cnts.le s.cnt s'.cnt := by
  have : recvHalf (tryFinishSendAux ans s env).1 (tryFinishSendAux ans s env).2.1 = recvHalf s env ∧
      Cnts.le s.cnt (tryFinishSendAux ans s env).1.cnt := by
    clear h
    -- as in `tfs_spec`: 6 a failing answer, 7 the frame completed, 8 the flush goes on
    fun_induction tryFinishSendAux ans s env with
    | case6 => split <;> exact ⟨rfl, Cnts.le_refl _⟩
    | case7 => exact ⟨rfl, by simp [Cnts.le]⟩
    | case8 _ _ _ _ _ _ _ _ _ _ ih => exact ih
    | _ => exact ⟨rfl, Cnts.le_refl _⟩
  rwa [h] at this

theorem isEmpty_false_iff {l : Bytes} : l.isEmpty = false ↔ l ≠ [] :=
  List.isEmpty_eq_false_iff

/-- `over`: the assertion of `mbuf_wire_ensure_capacity`.  `nothing` (0 bytes from below) says nothing of the queue
`rx'`: `len > 0` and a queue without empty segments exclude it; the last premise of `got` passes that property on. -/
theorem bufferReceive_cases {motive : St × Env × BufRes → Prop} (s : St) (env : Env) (len : Nat)
    (over : s.rbuf.length + len > Generated.MBUF_WIRE_MAX → motive (s, env, .abort))
    (drained : env.rx = [] → motive (s, env, match env.rxEnd with
      | none => .err EAGAIN
      | some .eof => .closed
      | some (.err e) => .err e))
    (nothing : ∀ {rx'}, len = 0 ∨ [] ∈ env.rx → motive (s, { env with rx := rx' }, .closed))
    (got : ∀ {got rx'}, got ≠ [] → got.length ≤ len → got ++ rx'.flatten = env.rx.flatten →
      ((∀ g ∈ env.rx, g ≠ []) → ∀ g ∈ rx', g ≠ []) →
      motive ({ s with rbuf := s.rbuf ++ got }, { env with rx := rx' },
        if got.length < len then .err EAGAIN else .full)) :
    motive (bufferReceive s env len) := by
  unfold bufferReceive lowerReceive
  by_cases hov : s.rbuf.length + len > Generated.MBUF_WIRE_MAX
  · rw [if_pos hov]; exact over hov
  · rw [if_neg hov]
    cases hrx : env.rx with
    | nil =>
      cases hre : env.rxEnd with
      | none => simpa only [hre] using drained hrx
      | some x => cases x <;> simpa only [hre] using drained hrx
    | cons seg rest =>
      rw [hrx] at nothing got
      by_cases hg : seg.take len = []
      · simpa only [hg, List.isEmpty_nil, if_true] using
          nothing ((List.take_eq_nil_iff.mp hg).imp id fun (h : seg = []) => h ▸ List.mem_cons_self)
      · have hge : (seg.take len).isEmpty = false := isEmpty_false_iff.mpr hg
        have := got (rx' := if (seg.drop len).isEmpty then rest else seg.drop len :: rest) hg
          (List.length_take_le len seg)
          (by
            split
            next hd =>
              rw [List.flatten_cons]
              conv => rhs; rw [← List.take_append_drop len seg, List.isEmpty_iff.mp hd, List.append_nil]
            next => rw [List.flatten_cons, List.flatten_cons, ← List.append_assoc, List.take_append_drop])
          (fun hseg g hg' => by
            split at hg'
            next => exact hseg g (List.mem_cons_of_mem _ hg')
            next hd =>
              rcases List.mem_cons.mp hg' with rfl | h
              · exact fun h => hd (List.isEmpty_iff.mpr h)
              · exact hseg g (List.mem_cons_of_mem _ h))
        by_cases hlt : (seg.take len).length < len <;>
          simpa only [hge, hlt, if_true, if_false, Bool.false_eq_true] using this

/-- `buffer_receive` of `len > 0` bytes that fit, from a queue without empty segments -/
structure BrSpec (s : St) (env : Env) (len : Nat) (r : St × Env × BufRes) : Prop where
  stream : r.1.rbuf ++ r.2.1.rx.flatten = s.rbuf ++ env.rx.flatten
  full : r.2.2 = .full → r.1.rbuf.length = s.rbuf.length + len
  notFull : r.2.2 ≠ .full → r.1.rbuf.length < s.rbuf.length + len
  grow : ∃ d, r.1.rbuf = s.rbuf ++ d
  noAbort : r.2.2 ≠ .abort
  same : r.1.sbuf = s.sbuf ∧ r.1.sent = s.sent ∧ r.1.cnt = s.cnt ∧ r.1.bad = s.bad
  envSame : r.2.1.tx = env.tx ∧ r.2.1.txErr = env.txErr ∧ r.2.1.rxEnd = env.rxEnd
  segs : ∀ g ∈ r.2.1.rx, g ≠ []

theorem bufferReceive_spec (s : St) (env : Env) (len : Nat) (hl : 0 < len)
    (hcap : s.rbuf.length + len ≤ Generated.MBUF_WIRE_MAX) (hseg : ∀ g ∈ env.rx, g ≠ []) :
    BrSpec s env len (bufferReceive s env len) := by
  refine bufferReceive_cases s env len
    (fun h => absurd hcap (Nat.not_le.mpr h)) ?_ ?_ ?_
  · intro _
    refine ⟨rfl, ?_, fun _ => Nat.lt_add_of_pos_right hl, ⟨[], (List.append_nil _).symm⟩, ?_,
      ⟨rfl, rfl, rfl, rfl⟩, ⟨rfl, rfl, rfl⟩, hseg⟩ <;> split <;> nofun
  · exact fun h => h.elim (absurd · (Nat.ne_of_gt hl)) (fun h => absurd rfl (hseg [] h))
  · intro got rx' _ hlen hfl hsegs
    have hstream : (s.rbuf ++ got) ++ rx'.flatten = s.rbuf ++ env.rx.flatten := by rw [List.append_assoc, hfl]
    split
    next hlt =>
      exact ⟨hstream, nofun,
        fun _ => List.length_append ▸ Nat.add_lt_add_left hlt _,
        ⟨_, rfl⟩, nofun, ⟨rfl, rfl, rfl, rfl⟩, ⟨rfl, rfl, rfl⟩, hsegs hseg⟩
    next hlt =>
      exact ⟨hstream,
        fun _ => by rw [List.length_append, Nat.le_antisymm hlen (Nat.le_of_not_lt hlt)],
        fun h => absurd rfl h, ⟨_, rfl⟩, nofun, ⟨rfl, rfl, rfl, rfl⟩, ⟨rfl, rfl, rfl⟩, hsegs hseg⟩

-- `q` is a variable, here and in `bufferPayload_valid`: users have generalised the result of `bufferReceive`
theorem bufferMsg_short (s : St) (env : Env) (h : s.rbuf.length < 4) {q : St × Env × BufRes}
    (hq : bufferReceive s env (4 - s.rbuf.length) = q) :
    bufferMsg s env = if q.2.2 = .full then bufferPayload q.1 q.2.1 else q := by
  have h1 : Generated.MBUF_HDR_LEN - min Generated.MBUF_HDR_LEN s.rbuf.length = 4 - s.rbuf.length := by
    rw [Generated.MBUF_HDR_LEN, Nat.min_eq_right (Nat.le_of_lt h)]
  have h2 : 4 - s.rbuf.length ≠ 0 := Nat.sub_ne_zero_of_lt h
  simp only [bufferMsg, bufferHdr, h1, h2, if_false, hq]
  obtain ⟨s', env', r⟩ := q
  cases r <;> rfl

theorem bufferMsg_hdr (s : St) (env : Env) (h : 4 ≤ s.rbuf.length) : bufferMsg s env = bufferPayload s env := by
  have h1 : Generated.MBUF_HDR_LEN - min Generated.MBUF_HDR_LEN s.rbuf.length = 0 := by
    rw [Generated.MBUF_HDR_LEN, Nat.min_eq_left h, Nat.sub_self]
  simp only [bufferMsg, bufferHdr, h1, if_true]

theorem bufferPayload_invalid (s : St) (env : Env) (h : hdrValid (rd32 s.rbuf) = false) :
    bufferPayload s env = ({ s with bad := some EPROTO }, env, .err EPROTO) := by
  simp only [bufferPayload, h, Bool.not_false, if_true]

theorem bufferPayload_valid (s : St) (env : Env) (h : hdrValid (rd32 s.rbuf) = true) {q : St × Env × BufRes}
    (hq : bufferReceive s env (rd32 s.rbuf - (s.rbuf.length - 4)) = q) :
    bufferPayload s env =
      if q.2.2 = .full then
        ({ q.1 with cnt := { q.1.cnt with fromLowerB := q.1.cnt.fromLowerB + rd32 s.rbuf,
                                          fromLowerM := q.1.cnt.fromLowerM + 1 } }, q.2.1, .full)
      else q := by
  simp only [bufferPayload, h, Bool.not_true, Bool.false_eq_true, if_false, Generated.MBUF_HDR_LEN, hq]
  obtain ⟨s', env', r⟩ := q
  cases r <;> rfl

theorem bufferReceive_frame (s : St) (env : Env) (len : Nat) :
    ∃ rb rx' res, bufferReceive s env len = ({ s with rbuf := rb }, { env with rx := rx' }, res) :=
  bufferReceive_cases (motive := fun r => ∃ rb rx' res, r = ({ s with rbuf := rb }, { env with rx := rx' }, res))
    s env len (fun _ => ⟨_, _, _, rfl⟩) (fun _ => ⟨_, _, _, rfl⟩) (fun _ => ⟨_, _, _, rfl⟩)
    (fun _ _ _ _ => ⟨_, _, _, rfl⟩)

theorem bufferPayload_frame (s : St) (env : Env) :
    sendHalf (bufferPayload s env).1 (bufferPayload s env).2.1 = sendHalf s env ∧
    Cnts.le s.cnt (bufferPayload s env).1.cnt := by
  cases hv : hdrValid (rd32 s.rbuf) with
  | false => rw [bufferPayload_invalid s env hv]; exact ⟨rfl, Cnts.le_refl _⟩
  | true =>
    obtain ⟨rb, rx', res, hq⟩ := bufferReceive_frame s env (rd32 s.rbuf - (s.rbuf.length - 4))
    rw [bufferPayload_valid s env hv hq]
    cases res with
    | full => rw [if_pos rfl]; exact ⟨rfl, by simp [Cnts.le]⟩
    | _ => rw [if_neg nofun]; exact ⟨rfl, Cnts.le_refl _⟩

theorem bufferMsg_frame (s : St) (env : Env) :
    sendHalf (bufferMsg s env).1 (bufferMsg s env).2.1 = sendHalf s env ∧ Cnts.le s.cnt (bufferMsg s env).1.cnt := by
  by_cases hs : s.rbuf.length < 4
  · obtain ⟨rb, rx', res, hq⟩ := bufferReceive_frame s env (4 - s.rbuf.length)
    rw [bufferMsg_short s env hs hq]
    cases res with
    | full => rw [if_pos rfl]; exact bufferPayload_frame { s with rbuf := rb } { env with rx := rx' }
    | _ => rw [if_neg nofun]; exact ⟨rfl, Cnts.le_refl _⟩
  · rw [bufferMsg_hdr s env (Nat.le_of_not_lt hs)]; exact bufferPayload_frame s env

/-- `receive_mbuf` between calls: an incomplete frame, or, once `bad` (EPROTO), the invalid header -/
def RbufOk (bad : Option Nat) (r : Bytes) : Prop :=
  r.length < 4 ∨ (4 ≤ r.length ∧ hdrValid (rd32 r) = true ∧ r.length < 4 + rd32 r) ∨
  (r.length = 4 ∧ hdrValid (rd32 r) = false ∧ bad ≠ none)

theorem hdrValid_bounds {n : Nat} (h : hdrValid n = true) :
    (1 ≤ n ∧ n ≤ Generated.MBUF_MSG_MAX) ∧ 4 + n ≤ Generated.MBUF_WIRE_MAX := by
  simp only [hdrValid, Bool.and_eq_true, decide_eq_true_eq] at h
  exact ⟨h, Nat.add_le_add_left h.2 4⟩

theorem RbufOk.bound {bad : Option Nat} {r : Bytes} (h : RbufOk bad r) : r.length ≤ Generated.MBUF_WIRE_MAX := by
  rcases h with h | ⟨_, hv, h⟩ | ⟨h, _⟩
  · exact Nat.le_trans (Nat.le_of_lt h) (by decide)
  · exact Nat.le_trans (Nat.le_of_lt h) (hdrValid_bounds hv).2
  · rw [h]; decide

/-- `buffer_msg` from a receive buffer in order; `full`: the buffer holds exactly one valid frame, counted -/
structure BmSpec (s : St) (env : Env) (r : St × Env × BufRes) : Prop where
  stream : r.1.rbuf ++ r.2.1.rx.flatten = s.rbuf ++ env.rx.flatten
  full : r.2.2 = .full → 4 ≤ r.1.rbuf.length ∧ hdrValid (rd32 r.1.rbuf) = true ∧
    r.1.rbuf.length = 4 + rd32 r.1.rbuf ∧ r.1.bad = s.bad ∧
    r.1.cnt = { s.cnt with fromLowerB := s.cnt.fromLowerB + rd32 r.1.rbuf,
                           fromLowerM := s.cnt.fromLowerM + 1 }
  notFull : r.2.2 ≠ .full → RbufOk r.1.bad r.1.rbuf ∧ r.1.cnt = s.cnt ∧
    (r.1.bad = s.bad ∨ (r.1.bad = some EPROTO ∧ r.2.2 = .err EPROTO))
  noAbort : r.2.2 ≠ .abort
  same : r.1.sbuf = s.sbuf ∧ r.1.sent = s.sent
  envSame : r.2.1.tx = env.tx ∧ r.2.1.txErr = env.txErr ∧ r.2.1.rxEnd = env.rxEnd
  segs : ∀ g ∈ r.2.1.rx, g ≠ []
  bound : r.1.rbuf.length ≤ Generated.MBUF_WIRE_MAX

theorem BmSpec.of_notFull {s : St} {env : Env} {len : Nat} {q : St × Env × BufRes} (br : BrSpec s env len q)
    (hf : q.2.2 ≠ .full) (hok : RbufOk q.1.bad q.1.rbuf) : BmSpec s env q :=
  ⟨br.stream, fun h => absurd h hf, fun _ => ⟨hok, br.same.2.2.1, Or.inl br.same.2.2.2⟩, br.noAbort,
    ⟨br.same.1, br.same.2.1⟩, br.envSame, br.segs, hok.bound⟩

theorem frame_rest {len rd : Nat} (h4 : 4 ≤ len) (hlt : len < 4 + rd) : len + (rd - (len - 4)) = 4 + rd := by
  rw [← Nat.add_sub_assoc (Nat.sub_le_iff_le_add'.mpr (Nat.le_of_lt hlt)), Nat.add_sub_sub_cancel h4, Nat.add_comm]

theorem bufferPayload_spec (s : St) (env : Env) (h4 : 4 ≤ s.rbuf.length)
    (hinc : hdrValid (rd32 s.rbuf) = true → s.rbuf.length < 4 + rd32 s.rbuf)
    (hinv : hdrValid (rd32 s.rbuf) = false → s.rbuf.length = 4)
    (hseg : ∀ g ∈ env.rx, g ≠ []) : BmSpec s env (bufferPayload s env) := by
  cases hv : hdrValid (rd32 s.rbuf) with
  | false =>
    rw [bufferPayload_invalid s env hv]
    exact ⟨rfl, nofun, fun _ => ⟨Or.inr (Or.inr ⟨hinv hv, hv, nofun⟩), rfl, Or.inr ⟨rfl, rfl⟩⟩, nofun, ⟨rfl, rfl⟩,
      ⟨rfl, rfl, rfl⟩, hseg, (hinv hv).symm ▸ (by decide)⟩
  | true =>
    have hb : 4 + rd32 s.rbuf ≤ Generated.MBUF_WIRE_MAX := (hdrValid_bounds hv).2
    have hn := frame_rest h4 (hinc hv)
    have hpos : 0 < rd32 s.rbuf - (s.rbuf.length - 4) := Nat.sub_pos_of_lt (Nat.sub_lt_left_of_lt_add h4 (hinc hv))
    rw [bufferPayload_valid s env hv rfl]
    -- `n` bytes of the frame are missing
    generalize rd32 s.rbuf - (s.rbuf.length - 4) = n at hn hpos ⊢
    have br := bufferReceive_spec s env n hpos (hn ▸ hb) hseg
    generalize bufferReceive s env n = q at br ⊢
    obtain ⟨d, hd⟩ := br.grow
    have hrd : rd32 q.1.rbuf = rd32 s.rbuf := by rw [hd]; exact rd32_append_of_length h4 d
    have hge : 4 ≤ q.1.rbuf.length := by rw [hd, List.length_append]; exact Nat.le_add_right_of_le h4
    split
    next hf =>
      have hfl : q.1.rbuf.length = 4 + rd32 q.1.rbuf := by rw [br.full hf, hn, hrd]
      exact ⟨br.stream, fun _ => ⟨hge, hrd.symm ▸ hv, hfl, br.same.2.2.2, by rw [hrd, br.same.2.2.1]⟩,
        fun h => absurd rfl h, nofun, ⟨br.same.1, br.same.2.1⟩, br.envSame, br.segs, hfl ▸ hrd ▸ hb⟩
    next hf =>
      exact .of_notFull br hf (Or.inr (Or.inl ⟨hge, hrd ▸ hv, by rw [hrd, ← hn]; exact br.notFull hf⟩))

theorem bufferMsg_spec (s : St) (env : Env) (hbad : s.bad = none) (hok : RbufOk s.bad s.rbuf)
    (hseg : ∀ g ∈ env.rx, g ≠ []) : BmSpec s env (bufferMsg s env) := by
  rcases hok with hshort | ⟨h4, hv, hlt⟩ | ⟨_, _, hb⟩
  · have hsum : s.rbuf.length + (4 - s.rbuf.length) = 4 := Nat.add_sub_cancel' (Nat.le_of_lt hshort)
    -- the header read writes `rbuf` and `rx` only: what `BmSpec` says of the payload read from there holds from `s`,
    -- `env`, the stream apart
    obtain ⟨rb, rx', res, hq⟩ := bufferReceive_frame s env (4 - s.rbuf.length)
    have br := hq ▸ bufferReceive_spec s env (4 - s.rbuf.length) (Nat.sub_pos_of_lt hshort) (by rw [hsum]; decide) hseg
    rw [bufferMsg_short s env hshort hq]
    split
    next hf =>
      have hl4 : rb.length = 4 := (br.full hf).trans hsum
      have bp := bufferPayload_spec { s with rbuf := rb } { env with rx := rx' } (Nat.le_of_eq hl4.symm)
        (fun hv => hl4 ▸ Nat.lt_add_of_pos_right (hdrValid_bounds hv).1.1) (fun _ => hl4) br.segs
      exact { bp with stream := bp.stream.trans br.stream }
    next hf => exact .of_notFull br hf (Or.inl (hsum ▸ br.notFull hf))
  · rw [bufferMsg_hdr s env h4]
    exact bufferPayload_spec s env h4 (fun _ => hlt) (fun hv' => by rw [hv] at hv'; cases hv') hseg
  · exact absurd hbad hb

theorem send_cases {motive : St × Env × Res × List SAns → Prop} (s : St) (env : Env) (m : Bytes) (ans : List SAns)
    (refused : ∀ {e}, ¬ Valid m ∨ s.bad = some e → motive (s, env, .err e, ans))
    (busy : ∀ {s1 env1 e ans1}, Valid m → s.bad = none →
      tryFinishSendAux ans s env = (s1, env1, some e, ans1) → motive (s1, env1, .err e, ans1))
    (buffered : ∀ {s1 env1 ans1 s3 env3 r3 ans3 res}, Valid m → s.bad = none →
      tryFinishSendAux ans s env = (s1, env1, none, ans1) →
      tryFinishSendAux ans1 { s1 with sbuf := frame m, sent := 0,
                                      cnt := { s1.cnt with fromAppB := s1.cnt.fromAppB + m.length,
                                                           fromAppM := s1.cnt.fromAppM + 1 } } env1
        = (s3, env3, r3, ans3) →
      (r3 = none ∨ r3 = some EAGAIN) ∧ res = .ok ∨ (∃ e, r3 = some e ∧ e ≠ EAGAIN ∧ res = .err e) →
      motive (s3, env3, res, ans3)) :
    motive (send s env m ans) := by
  have hv : ¬ m.length > Generated.MBUF_MSG_MAX → ¬ m.length = 0 → Valid m :=
    fun h1 h2 => ⟨Nat.pos_of_ne_zero h2, Nat.le_of_not_gt h1⟩
  -- 1 too long, 2 empty, 3 bad; 4 the flush of the frame before (`f1`) does not complete; else `m` is buffered and its
  -- flush (`f3`) completes (5), says EAGAIN (6), fails for good (7)
  fun_cases send s env m ans with
  | case1 h => exact refused (Or.inl fun hv => absurd hv.2 (Nat.not_le.mpr h))
  | case2 _ h => exact refused (Or.inl fun hv => absurd h (Nat.ne_of_gt hv.1))
  | case3 _ _ e h => exact refused (Or.inr h)
  | case4 h1 h2 hb _ _ _ _ f1 => exact busy (hv h1 h2) hb f1
  | case5 h1 h2 hb _ _ _ _ _ _ _ f1 f3 =>
    exact buffered (hv h1 h2) hb f1 f3 (Or.inl ⟨Or.inl rfl, rfl⟩)
  | case6 h1 h2 hb _ _ _ _ _ _ _ f1 f3 =>
    exact buffered (hv h1 h2) hb f1 f3 (Or.inl ⟨Or.inr rfl, rfl⟩)
  | case7 h1 h2 hb _ _ _ _ _ _ _ e hea f1 f3 =>
    exact buffered (hv h1 h2) hb f1 f3 (Or.inr ⟨e, rfl, hea, rfl⟩)

theorem receive_cases {motive : St × Env × Res × List SAns → Prop} (s : St) (env : Env) (cap : Nat)
    (ans : List SAns)
    (bad : ∀ {e}, s.bad = some e → motive (s, env, .err e, ans))
    (stopped : ∀ {s1 env1 e ans1}, s.bad = none → tryFinishSendAux ans s env = (s1, env1, some e, ans1) →
      e ≠ EAGAIN → motive (s1, env1, if e = EPIPE then .closed else .err e, ans1))
    (go : ∀ {s1 env1 r1 ans1 s2 env2 b}, s.bad = none → tryFinishSendAux ans s env = (s1, env1, r1, ans1) →
      bufferMsg s1 env1 = (s2, env2, b) →
      motive (match b with
        | .closed => (s2, env2, .closed, ans1)
        | .err e => (s2, env2, .err e, ans1)
        | .abort => (s2, env2, .abort "mbuf_wire_ensure_capacity", ans1)
        | .full =>
          ({ s2 with rbuf := [],
                     cnt := { s2.cnt with toAppB := s2.cnt.toAppB + min (rd32 s2.rbuf) cap,
                                          toAppM := s2.cnt.toAppM + 1 } },
           env2, .msg ((s2.rbuf.drop Generated.MBUF_HDR_LEN).take (min (rd32 s2.rbuf) cap))
             (s2.rbuf.drop Generated.MBUF_HDR_LEN), ans1))) :
    motive (receive s env cap ans) := by
  -- 1 bad; 2 the flush stops the call; else `buffer_msg` says closed (3), an error (4), abort (5), full (6)
  fun_cases receive s env cap ans with
  | case1 e h => exact bad h
  | case2 hb _ _ r1 _ h1 stop _ hr =>
    cases r1 with
    | none => exact nomatch hr
    | some e =>
      dsimp only [stop] at hr
      split at hr
      next => cases hr
      -- by `hr`, `r` is `if e = EPIPE then .closed else .err e`
      next hne => exact Option.some.inj ((apply_ite some ..).trans hr) ▸ stopped hb h1 hne
  | case3 hb _ _ _ _ h1 _ _ _ _ h2 => exact go hb h1 h2
  | case4 hb _ _ _ _ h1 _ _ _ _ _ h2 => exact go hb h1 h2
  | case5 hb _ _ _ _ h1 _ _ _ _ h2 => exact go hb h1 h2
  | case6 hb _ _ _ _ h1 _ _ _ _ _ _ _ h2 => exact go hb h1 h2

theorem finish_cases {motive : St × Env × Res × List SAns → Prop} (s : St) (env : Env) (ans : List SAns)
    (fin : Option Nat) (bad : ∀ {e}, s.bad = some e → motive (s, env, .err e, ans))
    (flushed : ∀ {s1 env1 r1 ans1}, tryFinishSendAux ans s env = (s1, env1, r1, ans1) →
      motive (s1, env1, (fin.or r1).elim .ok .err, ans1)) :
    motive (finish s env ans fin) := by
  -- 1 bad; 2 the lower finish fails, 3 the flush does, 4 neither
  fun_cases finish s env ans fin with
  | case1 _ e h => exact bad h
  | case2 _ _ _ _ _ h | case3 _ _ _ _ _ h | case4 _ _ _ _ h => exact flushed h

theorem send_busy {s : St} {env : Env} {m : Bytes} {ans : List SAns} {s1 : St} {env1 : Env} {e : Nat}
    {ans1 : List SAns} (hv : Valid m) (hb : s.bad = none)
    (h : tryFinishSendAux ans s env = (s1, env1, some e, ans1)) :
    send s env m ans = (s1, env1, .err e, ans1) := by
  simp [send, Nat.not_lt.mpr hv.2, Nat.ne_of_gt hv.1, hb, tryFinishSend, h]

theorem finish_busy {s : St} {env : Env} {ans : List SAns} {s1 : St} {env1 : Env} {e : Nat}
    {ans1 : List SAns} (hb : s.bad = none) (h : tryFinishSendAux ans s env = (s1, env1, some e, ans1)) :
    finish s env ans none = (s1, env1, .err e, ans1) := by
  simp [finish, hb, tryFinishSend, h]

theorem send_eagain {s : St} {env : Env} {m : Bytes} {ans : List SAns} (hv : Valid m) (hb : s.bad = none) :
    (send s env m ans).2.2.1 = .err EAGAIN →
    ∃ s1 env1 ans1, tryFinishSendAux ans s env = (s1, env1, some EAGAIN, ans1) :=
  send_cases
    (motive := fun r => r.2.2.1 = .err EAGAIN →
      ∃ s1 env1 ans1, tryFinishSendAux ans s env = (s1, env1, some EAGAIN, ans1))
    s env m ans (fun h => h.elim (absurd hv) (nomatch hb.symm.trans ·))
    (fun _ _ h1 h => by cases h; exact ⟨_, _, _, h1⟩)
    (fun _ _ _ _ hres h => by
      rcases hres with ⟨_, rfl⟩ | ⟨e, _, hne, rfl⟩
      · cases h
      · cases h; exact absurd rfl hne)

theorem send_frame (s : St) (env : Env) (m : Bytes) (ans : List SAns) :
    recvHalf (send s env m ans).1 (send s env m ans).2.1 = recvHalf s env ∧ Cnts.le s.cnt (send s env m ans).1.cnt :=
  send_cases (motive := fun r => recvHalf r.1 r.2.1 = recvHalf s env ∧ Cnts.le s.cnt r.1.cnt) s env m ans
    (fun _ => ⟨rfl, Cnts.le_refl _⟩) (fun _ _ h1 => tfs_frame h1)
    -- buffering the frame in between writes only the send half: the two flushes compose
    (fun _ _ h1 h3 _ =>
      ⟨(tfs_frame h3).1.trans (tfs_frame h1).1,
        Cnts.le_trans (tfs_frame h1).2 (Cnts.le_trans (by simp [Cnts.le]) (tfs_frame h3).2)⟩)

theorem finish_frame (s : St) (env : Env) (ans : List SAns) (fin : Option Nat) :
    recvHalf (finish s env ans fin).1 (finish s env ans fin).2.1 = recvHalf s env ∧
    Cnts.le s.cnt (finish s env ans fin).1.cnt :=
  finish_cases (motive := fun r => recvHalf r.1 r.2.1 = recvHalf s env ∧ Cnts.le s.cnt r.1.cnt) s env ans fin
    (fun _ => ⟨rfl, Cnts.le_refl _⟩) tfs_frame

theorem receive_frame (s : St) (env : Env) (cap : Nat) (ans : List SAns) :
    (sendHalf (receive s env cap ans).1 (receive s env cap ans).2.1 = sendHalf s env ∨
      sendHalf (receive s env cap ans).1 (receive s env cap ans).2.1 =
        sendHalf (tryFinishSendAux ans s env).1 (tryFinishSendAux ans s env).2.1) ∧
    Cnts.le s.cnt (receive s env cap ans).1.cnt :=
  receive_cases (motive := fun q => (sendHalf q.1 q.2.1 = sendHalf s env ∨
      sendHalf q.1 q.2.1 = sendHalf (tryFinishSendAux ans s env).1 (tryFinishSendAux ans s env).2.1) ∧
      Cnts.le s.cnt q.1.cnt)
    s env cap ans (fun _ => ⟨Or.inl rfl, Cnts.le_refl _⟩)
    (fun _ h1 _ => ⟨Or.inr (by rw [h1]), (tfs_frame h1).2⟩)
    (fun {s1 env1 _ _ _ _ b} _ h1 h2 => by
      have hm := bufferMsg_frame s1 env1
      rw [h2] at hm
      rw [h1]
      have hle := Cnts.le_trans (tfs_frame h1).2 hm.2
      cases b with
      | full => exact ⟨Or.inr hm.1, Cnts.le_trans hle (by simp [Cnts.le])⟩
      | _ => exact ⟨Or.inr hm.1, hle⟩)

def _root_.XcmModel.C07.Res.isAbort : Res → Bool
  | .abort _ => true
  | _ => false

/-- `tcp_receive` from a receive buffer in order: nothing delivered, and stream and counters stand, or exactly one valid
frame consumed -/
structure RecvSpec (s : St) (env : Env) (cap : Nat) (r : St × Env × Res × List SAns) : Prop where
  segs : ∀ g ∈ r.2.1.rx, g ≠ []
  noAbort : C07.Res.isAbort r.2.2.1 = false
  quiet : (∀ p f, r.2.2.1 ≠ .msg p f) →
    r.1.rbuf ++ r.2.1.rx.flatten = s.rbuf ++ env.rx.flatten ∧ RbufOk r.1.bad r.1.rbuf ∧ RCntSame r.1 s ∧
    (r.1.bad = s.bad ∨ r.1.bad = some EPROTO)
  msg : ∀ p f, r.2.2.1 = .msg p f →
    Valid f ∧ p = f.take cap ∧ s.rbuf ++ env.rx.flatten = frame f ++ r.2.1.rx.flatten ∧ r.1.rbuf = [] ∧
    r.1.bad = none ∧ r.1.cnt.toAppM = s.cnt.toAppM + 1 ∧ r.1.cnt.toAppB = s.cnt.toAppB + p.length ∧
    r.1.cnt.fromLowerM = s.cnt.fromLowerM + 1 ∧ r.1.cnt.fromLowerB = s.cnt.fromLowerB + f.length

theorem receive_spec (s : St) (env : Env) (cap : Nat) (ans : List SAns) (hok : RbufOk s.bad s.rbuf)
    (hseg : ∀ g ∈ env.rx, g ≠ []) : RecvSpec s env cap (receive s env cap ans) := by
  refine receive_cases s env cap ans ?_ ?_ ?_
  · exact fun _ => ⟨hseg, rfl, fun _ => ⟨rfl, hok, .refl s, Or.inl rfl⟩, nofun⟩
  · intro s1 env1 e ans1 hb h1 _
    obtain ⟨f1, f2, f3, f4⟩ := RecvHalf.mk.inj (tfs_frame h1).1
    split <;> exact ⟨f3 ▸ hseg, rfl, fun _ => ⟨by rw [f1, f3], by rw [f1, f2]; exact hok, f4, Or.inl f2⟩, nofun⟩
  · intro s1 env1 r1 ans1 s2 env2 b hb h1 h2
    obtain ⟨f1, f2, f3, f4⟩ := RecvHalf.mk.inj (tfs_frame h1).1
    have bm : BmSpec s1 env1 (s2, env2, b) :=
      h2 ▸ bufferMsg_spec s1 env1 (f2.trans hb) (by rw [f1, f2]; exact hok) (f3 ▸ hseg)
    cases b with
    | abort => exact absurd rfl bm.noAbort
    | closed | err _ =>
      have ⟨n1, n2, n3⟩ := bm.notFull nofun
      exact ⟨bm.segs, rfl, fun _ => ⟨by rw [bm.stream, f1, f3], n1,
        by rw [RCntSame, show s2.cnt = s1.cnt from n2]; exact f4,
        n3.elim (fun h => Or.inl (h.trans f2)) (fun h => Or.inr h.1)⟩, nofun⟩
    | full =>
      obtain ⟨g1, g2, g3, g4, g5⟩ := bm.full rfl
      have hfl : (s2.rbuf.drop 4).length = rd32 s2.rbuf := by rw [List.length_drop, g3, Nat.add_sub_cancel_left]
      refine ⟨bm.segs, rfl, fun h => absurd rfl (h _ _), fun p f h => ?_⟩
      cases h
      dsimp only [Generated.MBUF_HDR_LEN]
      refine ⟨by rw [Valid, hfl]; exact (hdrValid_bounds g2).1, ?_, ?_, rfl,
        (g4.trans f2).trans hb, ?_, ?_, ?_, ?_⟩
      -- of `len` bytes, the first `min len cap` are the first `cap`
      · rw [List.take_eq_take_iff, hfl, Nat.min_comm _ cap, Nat.min_assoc, Nat.min_self]
      · rw [← eq_frame_of_complete s2.rbuf g1 g3, ← f1, ← f3]; exact bm.stream.symm
      · rw [g5, f4.1]
      · rw [g5, List.length_take_of_le (hfl ▸ Nat.min_le_left _ _)]; exact congrArg (· + _) f4.2.1
      · rw [g5]; exact congrArg (· + 1) f4.2.2.1
      · rw [g5, hfl]; exact congrArg (· + _) f4.2.2.2

end XcmModel.Framing
