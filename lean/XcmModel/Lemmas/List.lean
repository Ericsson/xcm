/- Lists whose entries carry a key that occurs once: `(l.map f).Nodup`. -/
namespace XcmModel

theorem eq_of_nodup_map {α β : Type} (f : α → β) {l : List α} (nd : (l.map f).Nodup) {x y : α} (hx : x ∈ l) (hy : y ∈ l)
    (h : f x = f y) : x = y :=
  -- the keys differ pairwise, in either order
  have p := List.pairwise_map.mp nd
  List.Pairwise.forall_of_forall_of_flip (R := fun a b => f a = f b → a = b) (fun _ _ _ => rfl)
    (p.imp fun n e => absurd e n) (p.imp fun n e => absurd e.symm n) hx hy h

theorem find?_of_nodup_map {α β : Type} (f : α → β) {l : List α} (nd : (l.map f).Nodup) {p : α → Bool} {x : α}
    (hx : x ∈ l) (hp : p x = true) (hu : ∀ y, p y = true → f y = f x) : l.find? p = some x := by
  obtain ⟨y, hy⟩ := Option.isSome_iff_exists.mp (List.find?_isSome.mpr ⟨x, hx, hp⟩)
  rw [hy, eq_of_nodup_map f nd (List.mem_of_find?_eq_some hy) hx (hu y (List.find?_some hy))]

theorem mem_takeWhile_imp {α : Type} {p : α → Bool} {s : List α} {x : α} (h : x ∈ s.takeWhile p) : p x = true :=
  List.all_eq_true.mp List.all_takeWhile x h

theorem takeWhile_append_stop {α : Type} (f : α → Bool) (k rest : List α) (hk : ∀ x ∈ k, f x = true)
    (hr : ∀ x, rest.head? = some x → f x = false) : (k ++ rest).takeWhile f = k := by
  rw [List.takeWhile_append_of_pos hk]
  cases rest with
  | nil => simp
  | cons r rs => simp [hr r rfl]

end XcmModel
