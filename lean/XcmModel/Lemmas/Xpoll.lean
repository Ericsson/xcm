import XcmModel.Xpoll
/-
  The invariants of an xpoll instance, in layers: `KInv`, kept by every step that sets one registration (`SetReg`);
  `ActInv` and `ActPost`, what `update_active_fd` establishes; `Good`, which adds the bell count.
-/
namespace XcmModel.Xpoll

/-- the kernel's interest list is exactly the registrations with a non-zero event mask; a descriptor is registered at most once -/
structure KInv (x : X) : Prop where
  sound : ∀ e ∈ x.kernel, e.2 ≠ 0 ∧ ∃ i : Nat, x.slots[i]? = some (some e)
  complete : ∀ (i fd ev : Nat), x.slots[i]? = some (some (fd, ev)) → ev ≠ 0 → (fd, ev) ∈ x.kernel
  distinct : ∀ (i j fd e1 e2 : Nat), x.slots[i]? = some (some (fd, e1)) → x.slots[j]? = some (some (fd, e2)) → i = j

theorem kinv_init : KInv ({} : X) := by
  constructor
  · intro e he; simp at he
  · intro i fd ev h; simp at h
  · intro i j fd e1 e2 h; simp at h

theorem KInv.congr {x y : X} (h : KInv x) (hs : y.slots = x.slots) (hk : y.kernel = x.kernel) : KInv y :=
  ⟨by rw [hs, hk]; exact h.sound, by rw [hs, hk]; exact h.complete, by rw [hs]; exact h.distinct⟩

theorem KInv.own {x : X} (h : KInv x) {idx fd old : Nat} (hs : x.slots[idx]? = some (some (fd, old)))
    (j : Nat) (p : Nat × Nat) (hj : x.slots[j]? = some (some p)) : p.1 = fd ↔ j = idx := by
  constructor
  · intro hf; subst hf; exact h.distinct j idx p.1 p.2 old hj hs
  · intro hc; subst hc; rw [hs] at hj; cases hj; rfl

theorem epollMod_same (k : List (Nat × Nat)) (fd ev : Nat) : epollMod k fd ev ev = k := by simp [epollMod]

/-- on a list that holds `fd` as `(fd, old)` exactly when `old ≠ 0`, the four branches of `reg_epoll_mod` come to the
same -/
theorem mem_epollMod {k : List (Nat × Nat)} {fd old new : Nat}
    (hu : ∀ e ∈ k, e.1 = fd → e = (fd, old)) (hm : (fd, old) ∈ k ↔ old ≠ 0) (e : Nat × Nat) :
    e ∈ epollMod k fd old new ↔ (e ∈ k ∧ e.1 ≠ fd) ∨ (e = (fd, new) ∧ new ≠ 0) := by
  fun_cases epollMod k fd old new with
  | case1 h1 =>
    -- `old = new`: nothing is done
    subst h1
    constructor
    · intro he
      by_cases hf : e.1 = fd
      · cases hu e he hf; exact Or.inr ⟨rfl, hm.mp he⟩
      · exact Or.inl ⟨he, hf⟩
    · rintro (⟨he, _⟩ | ⟨rfl, hn⟩)
      · exact he
      · exact hm.mpr hn
  | case2 h1 h2 =>
    -- ADD: `fd` was not in the list
    subst h2
    have hno : ∀ e ∈ k, e.1 ≠ fd := fun e he hf => hm.mp (hu e he hf ▸ he) rfl
    rw [List.mem_append, List.mem_singleton]
    exact or_congr ⟨fun he => ⟨he, hno e he⟩, And.left⟩ ⟨fun he => ⟨he, Ne.symm h1⟩, And.left⟩
  | case3 _ h2 h3 =>
    -- MOD: `fd`'s entry, there because `old ≠ 0`, is replaced
    rw [List.mem_map]
    constructor
    · rintro ⟨e', he', rfl⟩
      by_cases hf : e'.1 = fd
      · rw [if_pos hf]; exact Or.inr ⟨rfl, h3⟩
      · rw [if_neg hf]; exact Or.inl ⟨he', hf⟩
    · rintro (⟨he, hf⟩ | ⟨rfl, _⟩)
      · exact ⟨e, he, if_neg hf⟩
      · exact ⟨(fd, old), hm.mpr h2, if_pos rfl⟩
  | case4 _ _ h3 => simp [h3]  -- DEL

theorem KInv.mem_epollMod {x : X} (h : KInv x) {idx fd old : Nat} (hs : x.slots[idx]? = some (some (fd, old)))
    (new : Nat) (e : Nat × Nat) :
    e ∈ epollMod x.kernel fd old new ↔ (e ∈ x.kernel ∧ e.1 ≠ fd) ∨ (e = (fd, new) ∧ new ≠ 0) := by
  refine Xpoll.mem_epollMod ?_ ⟨fun he => (h.sound _ he).1, h.complete idx fd old hs⟩ e
  intro e he hf
  obtain ⟨_, i, hi⟩ := h.sound e he
  cases (h.own hs i e hi).mp hf
  exact Option.some.inj (Option.some.inj (hi.symm.trans hs))

/-- `y` is `x` with registration `idx` set to `v` (`none`: free) and the bells untouched -/
structure SetReg (x y : X) (idx : Nat) (v : Option (Nat × Nat)) : Prop where
  at_idx : ∀ p : Nat × Nat, y.slots[idx]? = some (some p) ↔ v = some p
  other : ∀ (j : Nat), j ≠ idx → ∀ p : Nat × Nat, y.slots[j]? = some (some p) ↔ x.slots[j]? = some (some p)
  bells : y.bells = x.bells
  numBells : y.numBells = x.numBells
  aborted : y.aborted = x.aborted

theorem setReg_setAt {x : X} {slots' : List (Option (Nat × Nat))} {idx : Nat} {o : Option (Nat × Nat)}
    (v : Option (Nat × Nat)) {k : List (Nat × Nat)} {n : Nat} (hidx : slots'[idx]? = some o)
    (hsame : ∀ (j : Nat) (p : Nat × Nat), slots'[j]? = some (some p) ↔ x.slots[j]? = some (some p)) :
    SetReg x { x with slots := setAt slots' idx v, kernel := k, numRegs := n } idx v := by
  refine ⟨fun p => ?_, fun j hj p => ?_, rfl, rfl, rfl⟩
  · rw [setAt, List.getElem?_set_self (List.getElem?_eq_some_iff.mp hidx).1]
    exact Option.some_inj
  · rw [setAt, List.getElem?_set_ne (Ne.symm hj), hsame]

theorem SetReg.trans {x y z : X} {idx : Nat} {v w : Option (Nat × Nat)} (s : SetReg x y idx v) (t : SetReg y z idx w) :
    SetReg x z idx w :=
  ⟨t.at_idx, fun j hj p => (t.other j hj p).trans (s.other j hj p), t.bells.trans s.bells, t.numBells.trans s.numBells,
    t.aborted.trans s.aborted⟩

theorem SetReg.slots_other {x y : X} {idx : Nat} {v : Option (Nat × Nat)} (s : SetReg x y idx v) (fd : Nat)
    (hold : ∀ e, x.slots[idx]? ≠ some (some (fd, e))) (hnew : ∀ e, v ≠ some (fd, e)) (j e : Nat) :
    y.slots[j]? = some (some (fd, e)) ↔ x.slots[j]? = some (some (fd, e)) := by
  by_cases hj : j = idx
  · rw [hj, s.at_idx]; exact ⟨fun hc => absurd hc (hnew e), fun hc => absurd hc (hold e)⟩
  · exact s.other j hj _

theorem SetReg.withActive {x y : X} {idx : Nat} {v : Option (Nat × Nat)} (s : SetReg x y idx v) (a : Option Nat) :
    SetReg x { y with active := a } idx v :=
  ⟨s.at_idx, s.other, s.bells, s.numBells, s.aborted⟩

theorem SetReg.slot {x y : X} {idx : Nat} {p : Nat × Nat} (s : SetReg x y idx (some p)) : y.slots[idx]? = some (some p) :=
  (s.at_idx p).mpr rfl

/-- `hown`: in `x`, slot `idx` is `fd`'s if anybody's.  `b` is the event the kernel is to hold for `fd` afterwards:
0 when the slot is freed (to the kernel a registration with event 0 and none are the same) -/
theorem SetReg.kinv {x y : X} {idx fd b : Nat} {v : Option (Nat × Nat)} (s : SetReg x y idx v) (h : KInv x)
    (hv : v = some (fd, b) ∨ v = none ∧ b = 0)
    (hown : ∀ j p, x.slots[j]? = some (some p) → (p.1 = fd ↔ j = idx))
    (hk : ∀ e, e ∈ y.kernel ↔ (e ∈ x.kernel ∧ e.1 ≠ fd) ∨ (e = (fd, b) ∧ b ≠ 0)) :
    KInv y := by
  have hy : ∀ i p, y.slots[i]? = some (some p) →
      (i = idx ∧ p = (fd, b)) ∨ (p.1 ≠ fd ∧ x.slots[i]? = some (some p)) := by
    intro i p hi
    by_cases hii : i = idx
    · have hi' := (s.at_idx p).mp (hii ▸ hi)
      rcases hv with hv | ⟨hv, _⟩ <;> rw [hv] at hi' <;> cases hi'
      exact Or.inl ⟨hii, rfl⟩
    · have hi' := (s.other i hii p).mp hi
      exact Or.inr ⟨fun hf => hii ((hown i p hi').mp hf), hi'⟩
  refine ⟨?_, ?_, ?_⟩
  · intro e he
    rcases (hk e).mp he with ⟨hx, hne⟩ | ⟨rfl, hne⟩
    · obtain ⟨h0, i, hi⟩ := h.sound e hx
      have hii : i ≠ idx := fun hc => hne ((hown i e hi).mpr hc)
      exact ⟨h0, i, (s.other i hii e).mpr hi⟩
    · rcases hv with hv | ⟨_, hb⟩
      · exact ⟨hne, idx, (s.at_idx _).mpr hv⟩
      · exact absurd hb hne
  · intro i fd' ev hi hne
    rcases hy i _ hi with ⟨_, hp⟩ | ⟨hf, hx⟩
    · cases hp; exact (hk _).mpr (Or.inr ⟨rfl, hne⟩)
    · exact (hk _).mpr (Or.inl ⟨h.complete i fd' ev hx hne, hf⟩)
  · intro i j fd' e1 e2 hi hj
    rcases hy i _ hi with ⟨hii, hp⟩ | ⟨hf, hx⟩ <;> rcases hy j _ hj with ⟨hjj, hq⟩ | ⟨hg, hx'⟩
    · rw [hii, hjj]
    · cases hp; exact absurd rfl hg
    · cases hq; exact absurd rfl hf
    · exact h.distinct i j fd' e1 e2 hx hx'

theorem findFree_spec {α : Type} (l : List (Option α)) (base i : Nat) :
    findFree l base = some i → ∃ k, i = base + k ∧ l[k]? = some none := by
  fun_induction findFree l base with
  | case1 => nofun
  | case2 => intro h; cases h; exact ⟨0, rfl, rfl⟩
  | case3 v t b ih => intro h; obtain ⟨k, hk, hl⟩ := ih h; exact ⟨k + 1, hk.trans (Nat.succ_add_eq_add_succ b k), hl⟩

theorem findFree_zero {α : Type} {l : List (Option α)} {i : Nat} (h : findFree l 0 = some i) : l[i]? = some none := by
  obtain ⟨k, rfl, hl⟩ := findFree_spec l 0 i h
  rwa [Nat.zero_add]

theorem findFree_none {α : Type} (l : List (Option α)) (base : Nat) :
    findFree l base = none → ∀ j : Nat, l[j]? ≠ some none := by
  fun_induction findFree l base with
  | case1 => exact fun _ j hc => nomatch hc
  | case2 => nofun
  | case3 v t b ih =>
    intro h j
    cases j with
    | zero => nofun
    | succ k => exact ih h k

theorem getElem?_append_replicate_none {α : Type} (l : List (Option α)) (n j : Nat) (p : α) :
    (l ++ List.replicate n none)[j]? = some (some p) ↔ l[j]? = some (some p) := by
  rw [List.getElem?_append]
  split
  · rfl
  · next hge =>
    rw [List.getElem?_eq_none_iff.mpr (Nat.le_of_not_lt hge)]
    exact ⟨(fun hh => nomatch List.eq_of_mem_replicate (List.mem_of_getElem? hh)), nofun⟩

/-- the table as `allocSlot` and `bellAdd` grow it when no entry is free -/
theorem getElem?_grow {α : Type} (l : List (Option α)) :
    (l ++ List.replicate (nextCapacity l.length - l.length) none)[l.length]? = some none := by
  have hpos : l.length < nextCapacity l.length :=
    Nat.lt_of_lt_of_le (Nat.lt_succ_self _) (Nat.le_mul_of_pos_right _ Nat.two_pos)
  rw [List.getElem?_append_right (Nat.le_refl _), List.getElem?_replicate, Nat.sub_self, if_pos (Nat.sub_pos_of_lt hpos)]

theorem hasFd_eq_false_iff (x : X) (fd : Nat) :
    hasFd x fd = false ↔ ∀ (j ev : Nat), x.slots[j]? ≠ some (some (fd, ev)) := by
  unfold hasFd
  rw [List.any_eq_false]
  constructor
  · intro h j ev hc
    exact h _ (List.mem_of_getElem? hc) (beq_self_eq_true fd)
  · intro h s hs
    obtain ⟨j, hj⟩ := List.getElem?_of_mem hs
    split
    · next f e => exact fun hc => h j e (eq_of_beq hc ▸ hj)
    · nofun

theorem fdRegMod_active (x : X) (idx ev : Nat) : (fdRegMod x idx ev).active = x.active := by
  unfold fdRegMod; split <;> rfl

theorem anyRinging_fdRegMod (x : X) (idx ev : Nat) : anyRinging (fdRegMod x idx ev) = anyRinging x := by
  unfold fdRegMod; split <;> rfl

theorem allocSlot_active (x : X) (fd : Nat) : (allocSlot x fd).1.active = x.active := by
  unfold allocSlot; split <;> rfl

theorem setReg_fdRegMod {x : X} {idx fd old : Nat} (hs : x.slots[idx]? = some (some (fd, old))) (ev : Nat) :
    SetReg x (fdRegMod x idx ev) idx (some (fd, ev)) := by
  simp only [fdRegMod, hs]
  exact setReg_setAt _ hs (fun _ _ => Iff.rfl)

theorem kinv_fdRegMod (x : X) (idx ev : Nat) (h : KInv x) : KInv (fdRegMod x idx ev) := by
  unfold fdRegMod
  split
  · next fd old hs =>
    exact (setReg_setAt _ hs fun _ _ => Iff.rfl).kinv h (Or.inl rfl) (h.own hs) (h.mem_epollMod hs ev)
  · exact h.congr rfl rfl

theorem setReg_allocSlot (x : X) (fd : Nat) :
    SetReg x (allocSlot x fd).1 (allocSlot x fd).2 (some (fd, 0)) ∧ (allocSlot x fd).1.kernel = x.kernel
      ∧ ∀ p, x.slots[(allocSlot x fd).2]? ≠ some (some p) := by
  fun_cases allocSlot x fd with
  | case1 idx hfr =>
    have hl := findFree_zero hfr
    exact ⟨setReg_setAt _ hl (fun _ _ => Iff.rfl), rfl, fun p hp => by rw [hl] at hp; cases hp⟩
  | case2 _ =>
    refine ⟨setReg_setAt _ (getElem?_grow x.slots) (getElem?_append_replicate_none x.slots _), rfl, fun p hp => ?_⟩
    rw [List.getElem?_eq_none_iff.mpr (Nat.le_refl _)] at hp; cases hp

theorem kinv_allocSlot (x : X) (fd : Nat) (h : KInv x) (hf : ∀ (j ev : Nat), x.slots[j]? ≠ some (some (fd, ev))) :
    KInv (allocSlot x fd).1 := by
  obtain ⟨hr, hk, hfree⟩ := setReg_allocSlot x fd
  have hno : ∀ e ∈ x.kernel, e.1 ≠ fd := fun e he hc => by
    obtain ⟨_, i, hi⟩ := h.sound e he
    exact hf i e.2 (hc ▸ hi)
  refine hr.kinv h (Or.inl rfl) (fun j p hj => ⟨fun hc => absurd (hc ▸ hj) (hf j p.2), fun hc => absurd (hc ▸ hj) (hfree p)⟩) ?_
  intro e
  rw [hk]
  exact ⟨fun he => Or.inl ⟨he, hno e he⟩, fun he => he.elim And.left (fun hc => absurd rfl hc.2)⟩

theorem fdRegAdd_of_new {x : X} {fd : Nat} (hf : hasFd x fd = false) (ev : Nat) :
    fdRegAdd x fd ev = (fdRegMod (allocSlot x fd).1 (allocSlot x fd).2 ev, (allocSlot x fd).2) := by
  simp only [fdRegAdd, hf, Bool.false_eq_true, if_false]

theorem kinv_fdRegAdd (x : X) (fd ev : Nat) (h : KInv x) : KInv (fdRegAdd x fd ev).1 := by
  fun_cases fdRegAdd x fd ev with
  | case1 => exact h.congr rfl rfl
  | case2 hf => exact kinv_fdRegMod _ _ _ (kinv_allocSlot x fd h ((hasFd_eq_false_iff x fd).mp (Bool.eq_false_iff.mpr hf)))

/-- `xpoll_fd_reg_del` is one step: to event 0, which takes the descriptor out of the kernel, then freed -/
theorem setReg_fdRegDel {x : X} {idx fd old : Nat} (hs : x.slots[idx]? = some (some (fd, old))) :
    SetReg x (fdRegDel x idx) idx none ∧ (fdRegDel x idx).kernel = epollMod x.kernel fd old 0
      ∧ (fdRegDel x idx).active = x.active := by
  have s := setReg_fdRegMod hs 0
  simp only [fdRegDel, hs, clearSlot]
  refine ⟨s.trans (setReg_setAt none s.slot (fun _ _ => Iff.rfl)), ?_,
    fdRegMod_active x idx 0⟩
  simp only [fdRegMod, hs]

theorem kinv_fdRegDel (x : X) (idx : Nat) (h : KInv x) : KInv (fdRegDel x idx) := by
  by_cases hs : ∃ fd old, x.slots[idx]? = some (some (fd, old))
  · obtain ⟨fd, old, hs⟩ := hs
    obtain ⟨s, hk, _⟩ := setReg_fdRegDel hs
    exact s.kinv h (Or.inr ⟨rfl, rfl⟩) (h.own hs) (hk ▸ h.mem_epollMod hs 0)
  · unfold fdRegDel
    split
    · next p hi => exact absurd ⟨p.1, p.2, hi⟩ hs
    · exact h.congr rfl rfl

/-- the registration of the always-readable descriptor, if any, is where `active` says -/
def ActInv (x : X) : Prop :=
  match x.active with
  | some reg => ∃ ev : Nat, x.slots[reg]? = some (some (ACTIVE, ev))
  | none => ∀ (j ev : Nat), x.slots[j]? ≠ some (some (ACTIVE, ev))

structure ActPost (x y : X) : Prop where
  kinv : KInv y
  act : ActInv y
  bells : y.bells = x.bells
  numBells : y.numBells = x.numBells
  aborted : y.aborted = x.aborted
  held : y.active.isSome = true ↔ x.numBells > 0
  event : ∀ reg, y.active = some reg → y.slots[reg]? = some (some (ACTIVE, if anyRinging y then EPOLLIN else 0))
  users : ∀ (j fd ev : Nat), fd ≠ ACTIVE → (y.slots[j]? = some (some (fd, ev)) ↔ x.slots[j]? = some (some (fd, ev)))

/-- `update_active_fd` while bells exist, whether slot `reg` held the always-readable descriptor before or was free -/
theorem actPost_of_setReg {x y : X} {reg b : Nat} (s : SetReg x y reg (some (ACTIVE, b)))
    (hb : b = if anyRinging y then EPOLLIN else 0) (hk : KInv y) (ha : y.active = some reg) (hnb : x.numBells > 0)
    (hold : ∀ fd e, fd ≠ ACTIVE → x.slots[reg]? ≠ some (some (fd, e))) : ActPost x y where
  kinv := hk
  act := by simp only [ActInv, ha]; exact ⟨_, s.slot⟩
  bells := s.bells
  numBells := s.numBells
  aborted := s.aborted
  held := by rw [ha]; exact ⟨fun _ => hnb, fun _ => rfl⟩
  event := by intro r hr; rw [ha] at hr; cases hr; rw [← hb]; exact s.slot
  users := fun j fd ev hfd => s.slots_other fd (fun e => hold fd e hfd) (fun e hc => by cases hc; exact hfd rfl) j ev

theorem updateActive_post (x : X) (hk : KInv x) (ha : ActInv x) : ActPost x (updateActive x) := by
  unfold updateActive
  cases hact : x.active with
  | some reg =>
    simp only [ActInv, hact] at ha
    obtain ⟨ev0, hs0⟩ := ha
    have hold : ∀ fd e, fd ≠ ACTIVE → x.slots[reg]? ≠ some (some (fd, e)) := by
      intro fd e hfd hc; rw [hs0] at hc; cases hc; exact hfd rfl
    by_cases hnb : x.numBells = 0
    · -- the last bell is gone: the registration is removed
      simp only [hnb, if_true]
      obtain ⟨s, _, _⟩ := setReg_fdRegDel hs0
      exact { kinv := (kinv_fdRegDel x reg hk).congr rfl rfl
              act := by
                intro j ev hc
                by_cases hj : j = reg
                · cases (s.at_idx _).mp (hj ▸ hc)
                · exact hj (hk.distinct j reg ACTIVE ev ev0 ((s.other j hj _).mp hc) hs0)
              bells := s.bells, numBells := s.numBells, aborted := s.aborted
              held := ⟨fun hc => Bool.noConfusion hc, fun hc => absurd hnb (Nat.ne_of_gt hc)⟩
              event := fun r hr => nomatch hr
              users := fun j fd ev hfd => s.slots_other fd (fun e => hold fd e hfd) (fun e hc => nomatch hc) j ev }
    · -- held and still needed: only its event follows the bells
      simp only [hnb, if_false, hact]
      exact actPost_of_setReg (setReg_fdRegMod hs0 _) (by rw [anyRinging_fdRegMod]) (kinv_fdRegMod x reg _ hk)
        ((fdRegMod_active x reg _).trans hact) (Nat.pos_of_ne_zero hnb) hold
  | none =>
    simp only [ActInv, hact] at ha
    by_cases hnb : x.numBells > 0
    · -- the first bell: registered with event 0 (allocation, then `reg_epoll_mod` to 0), the id kept, then as above
      simp only [hnb, if_true]
      have hk0 := kinv_fdRegAdd x ACTIVE 0 hk
      rw [fdRegAdd_of_new ((hasFd_eq_false_iff x ACTIVE).mpr ha)] at hk0 ⊢
      obtain ⟨s0, _, hfree⟩ := setReg_allocSlot x ACTIVE
      have s1 := (s0.trans (setReg_fdRegMod s0.slot 0)).withActive (some (allocSlot x ACTIVE).2)
      exact actPost_of_setReg (s1.trans (setReg_fdRegMod s1.slot _)) (by rw [anyRinging_fdRegMod])
        (kinv_fdRegMod _ _ _ (hk0.congr rfl rfl)) (fdRegMod_active _ _ _) hnb (fun fd e _ => hfree _)
    · simp only [hnb, if_false, hact]
      exact { kinv := hk, act := by simp only [ActInv, hact]; exact ha, bells := rfl, numBells := rfl, aborted := rfl
              held := by rw [hact]; exact ⟨fun hc => Bool.noConfusion hc, fun hc => absurd hc hnb⟩
              event := by intro r hr; rw [hact] at hr; cases hr
              users := fun _ _ _ _ => Iff.rfl }

def live {α : Type} (l : List (Option α)) : Nat := (l.filter Option.isSome).length

theorem live_eq_countP {α : Type} (l : List (Option α)) : live l = l.countP Option.isSome :=
  List.countP_eq_length_filter.symm

theorem live_set {α : Type} (l : List (Option α)) (i : Nat) (a : Option α) (old : Option α) (h : l[i]? = some old) :
    live (setAt l i a) + (if old.isSome then 1 else 0) = live l + (if a.isSome then 1 else 0) := by
  obtain ⟨hi, rfl⟩ := List.getElem?_eq_some_iff.mp h
  -- `countP_set` subtracts the old entry's share, which the count contains
  have hle := List.boole_getElem_le_countP (p := Option.isSome) hi
  rw [live_eq_countP, live_eq_countP, setAt, List.countP_set hi, Nat.add_right_comm, Nat.sub_add_cancel hle]

theorem live_append_none {α : Type} (l : List (Option α)) (n : Nat) : live (l ++ List.replicate n none) = live l := by
  simp [live, List.filter_append]

/-- what every bell operation, and every fd operation on a descriptor other than `ACTIVE`, re-establishes -/
structure Good (x : X) : Prop where
  kinv : KInv x
  act : ActInv x
  count : x.numBells = live x.bells
  held : x.active.isSome = true ↔ x.numBells > 0
  event : ∀ reg, x.active = some reg → x.slots[reg]? = some (some (ACTIVE, if anyRinging x then EPOLLIN else 0))

theorem good_init : Good ({} : X) := by
  refine ⟨kinv_init, ?_, rfl, by simp, by intro r h; simp at h⟩
  simp [ActInv]

/-- one bell entry set (`old` to `a`, in a table `bells0` with the bells of `x`), the count adjusted, then `update_active_fd` -/
theorem good_bells (x : X) (h : Good x) (bells0 : List (Option Bool)) (hl : live bells0 = live x.bells) (i : Nat)
    (a old : Option Bool) (hb : bells0[i]? = some old) (n : Nat)
    (hn : n = x.numBells + (if a.isSome then 1 else 0) - (if old.isSome then 1 else 0)) :
    Good (updateActive { x with bells := setAt bells0 i a, numBells := n }) :=
  have p := updateActive_post { x with bells := setAt bells0 i a, numBells := n }
    (h.kinv.congr rfl rfl) h.act
  { kinv := p.kinv, act := p.act
    count := by
      rw [p.numBells, p.bells]
      show n = live (setAt bells0 i a)
      rw [hn, h.count, ← hl, ← live_set bells0 i a old hb, Nat.add_sub_cancel]
    held := by rw [p.numBells]; exact p.held, event := p.event }

theorem good_bellAdd (x : X) (r : Bool) (h : Good x) : Good (bellAdd x r).1 := by
  unfold bellAdd
  split
  · next idx hfr => exact good_bells x h _ rfl _ (some r) none (findFree_zero hfr) _ rfl
  · exact good_bells x h _ (live_append_none x.bells _) _ (some r) none (getElem?_grow x.bells) _ rfl

theorem good_bellMod (x : X) (i : Nat) (r : Bool) (h : Good x) (hna : (bellMod x i r).aborted = false) : Good (bellMod x i r) := by
  unfold bellMod at hna ⊢
  split at hna
  · next old hb =>
    split
    · exact h
    · exact good_bells x h _ rfl i (some r) (some old) hb _ rfl
  · cases hna

theorem good_bellDel (x : X) (i : Nat) (h : Good x) (hna : (bellDel x i).aborted = false) : Good (bellDel x i) := by
  unfold bellDel at hna ⊢
  split at hna
  · next old hb => exact good_bells x h _ rfl i none (some old) hb _ rfl
  · cases hna

/-- a step on one of the transports' own registrations (not `ACTIVE`'s before or after) leaves the bell machinery alone -/
theorem SetReg.good {x y : X} {idx : Nat} {v : Option (Nat × Nat)} (s : SetReg x y idx v) (h : Good x) (hk : KInv y)
    (ha : y.active = x.active) (hold : ∀ e, x.slots[idx]? ≠ some (some (ACTIVE, e))) (hnew : ∀ e, v ≠ some (ACTIVE, e)) :
    Good y := by
  have hact := s.slots_other ACTIVE hold hnew
  refine ⟨hk, ?_, by rw [s.numBells, s.bells]; exact h.count, by rw [ha, s.numBells]; exact h.held, ?_⟩
  · simp only [ActInv, ha, ne_eq, hact]
    exact h.act
  · intro reg hr
    rw [ha] at hr
    unfold anyRinging
    rw [s.bells]
    exact (hact reg _).mpr (h.event reg hr)

theorem good_fdRegMod_user (x : X) (idx ev fd old : Nat) (h : Good x) (hs : x.slots[idx]? = some (some (fd, old)))
    (hfd : fd ≠ ACTIVE) : Good (fdRegMod x idx ev) :=
  (setReg_fdRegMod hs ev).good h (kinv_fdRegMod x idx ev h.kinv) (fdRegMod_active x idx ev)
    (fun e hc => by rw [hs] at hc; cases hc; exact hfd rfl) (fun e hc => by cases hc; exact hfd rfl)

theorem good_fdRegAdd_user (x : X) (fd ev : Nat) (h : Good x) (hfd : fd ≠ ACTIVE) (hf : hasFd x fd = false) :
    Good (fdRegAdd x fd ev).1 := by
  rw [fdRegAdd_of_new hf]
  obtain ⟨s, _, hfree⟩ := setReg_allocSlot x fd
  have hg := s.good h (kinv_allocSlot x fd h.kinv ((hasFd_eq_false_iff x fd).mp hf)) (allocSlot_active x fd) (fun e => hfree _)
    (fun e hc => by cases hc; exact hfd rfl)
  exact good_fdRegMod_user _ _ ev fd 0 hg s.slot hfd

theorem good_fdRegDel_user (x : X) (idx fd old : Nat) (h : Good x) (hs : x.slots[idx]? = some (some (fd, old)))
    (hfd : fd ≠ ACTIVE) : Good (fdRegDel x idx) := by
  obtain ⟨s, _, ha⟩ := setReg_fdRegDel hs
  exact s.good h (kinv_fdRegDel x idx h.kinv) ha (fun e hc => by rw [hs] at hc; cases hc; exact hfd rfl)
    (fun e hc => by cases hc)

theorem Good.active_kernel {x : X} (h : Good x) (ev : Nat) :
    (ACTIVE, ev) ∈ x.kernel ↔ anyRinging x = true ∧ ev = EPOLLIN := by
  constructor
  · intro he
    obtain ⟨hne, i, hi⟩ := h.kinv.sound _ he
    cases hact : x.active with
    | none =>
      have := h.act
      simp only [ActInv, hact] at this
      exact absurd hi (this i ev)
    | some reg =>
      -- `ACTIVE` is registered once, where `active` says, for what the bells call for
      have hreg := h.event reg hact
      cases h.kinv.distinct reg i ACTIVE _ _ hreg hi
      cases hreg.symm.trans hi
      by_cases hr : anyRinging x = true
      · exact ⟨hr, if_pos hr⟩
      · exact absurd (if_neg hr) hne
  · rintro ⟨hr, rfl⟩
    -- a ringing bell is a counted bell, so the descriptor is held
    obtain ⟨b, hb, hv⟩ := List.any_eq_true.mp hr
    have hpos : x.numBells > 0 := by
      rw [h.count]
      exact List.length_filter_pos_iff.mpr ⟨b, hb, eq_of_beq hv ▸ rfl⟩
    obtain ⟨reg, hact⟩ := Option.isSome_iff_exists.mp (h.held.mpr hpos)
    have hreg := h.event reg hact
    rw [if_pos hr] at hreg
    exact h.kinv.complete reg ACTIVE EPOLLIN hreg (by decide)

/-- when `epoll_wait` on the socket's fd reports it readable, given which events `ready` are true of which descriptor -/
theorem Good.readable_iff {x : X} (h : Good x) (ready : Nat → Nat → Bool) :
    readable x ready = true ↔ anyRinging x = true ∨
      ∃ (i fd ev : Nat), x.slots[i]? = some (some (fd, ev)) ∧ fd ≠ ACTIVE ∧ ev ≠ 0 ∧ ready fd ev = true := by
  unfold readable
  rw [List.any_eq_true]
  constructor
  · rintro ⟨⟨fd, ev⟩, he, hr⟩
    by_cases hf : fd = ACTIVE
    · subst hf; exact Or.inl ((h.active_kernel ev).mp he).1
    · obtain ⟨hne, i, hi⟩ := h.kinv.sound _ he
      rw [if_neg hf] at hr; exact Or.inr ⟨i, fd, ev, hi, hf, hne, hr⟩
  · rintro (hb | ⟨i, fd, ev, hi, hf, hne, hr⟩)
    · exact ⟨_, (h.active_kernel EPOLLIN).mpr ⟨hb, rfl⟩, by rw [if_pos rfl]; decide⟩
    · exact ⟨_, h.kinv.complete i fd ev hi hne, by rw [if_neg hf]; exact hr⟩

end XcmModel.Xpoll
