import XcmModel.Tp
namespace XcmModel.Tp

/-- every branch of `consider_ctl` returns `s` or `{ s with skipped := _ }` -/
theorem considerCtl_auto (s : Sock) (p t : Bool) : (considerCtl s p t).1.auto = s.auto := by
  unfold considerCtl
  simp only [apply_ite Prod.fst, apply_ite Sock.auto, ite_self]

theorem last_append2 {α : Type} (a c : List α) (u : α) : (a ++ (c ++ [u])).getLast? = some u := by
  rw [← List.append_assoc, List.getLast?_concat]

theorem getLast?_autoUpdate (s : Sock) (h : s.auto = true) (pre : List Call) :
    (pre ++ autoUpdate s).getLast? = some .update := by
  simp only [autoUpdate, h, if_true, Bool.false_eq_true, if_false]
  exact List.getLast?_concat ..

theorem autoEnableCtl_auto (s : Sock) : (autoEnableCtl s).1.auto = s.auto := by
  unfold autoEnableCtl
  simp only [apply_ite Prod.fst, apply_ite Sock.auto, ite_self]

end XcmModel.Tp
