import XcmModel.Libc
import XcmModel.Lemmas.List
namespace XcmModel.Libc

theorem isDigit_iff {c : UInt8} : isDigit c = true ↔ 48 ≤ c.toNat ∧ c.toNat ≤ 57 := by
  simp [isDigit, UInt8.le_iff_toNat_le]

theorem isDigit_ofNat {d : Nat} (h : d < 10) : isDigit (UInt8.ofNat (48 + d)) = true := by
  rw [isDigit_iff, UInt8.toNat_ofNat', Nat.mod_eq_of_lt (by omega)]
  exact ⟨Nat.le_add_right 48 d, Nat.add_le_add_left (Nat.le_of_lt_succ h) 48⟩

theorem digitVal_ofNat {d : Nat} (h : d < 10) : digitVal (UInt8.ofNat (48 + d)) = d := by
  rw [digitVal, UInt8.toNat_ofNat', Nat.mod_eq_of_lt (by omega), Nat.add_sub_cancel_left]

theorem digitVal_lt {c : UInt8} (h : isDigit c = true) : digitVal c < 10 := by
  rw [isDigit_iff] at h; rw [digitVal]; omega

theorem isDigit_not_space {c : UInt8} (h : isDigit c = true) : isSpace c = false := by
  rw [isDigit_iff] at h
  simp only [isSpace, Bool.or_eq_false_iff, BEq.beq, Bool.and_eq_false_iff,
    decide_eq_false_iff_not, UInt8.le_iff_toNat_le, ← UInt8.toNat_inj, UInt8.toNat_ofNat]
  omega

theorem isDigit_ne_sign {c : UInt8} (h : isDigit c = true) : c ≠ 45 ∧ c ≠ 43 := by
  rw [isDigit_iff] at h
  simp only [ne_eq, ← UInt8.toNat_inj, UInt8.toNat_ofNat]
  omega

theorem decRev_digits (fuel n : Nat) : ∀ c ∈ decRev fuel n, isDigit c = true := by
  fun_induction decRev fuel n with
  | case1 => nofun
  | case2 _ _ h => exact List.forall_mem_singleton.mpr (isDigit_ofNat h)
  | case3 _ _ _ ih => exact List.forall_mem_cons.mpr ⟨isDigit_ofNat (Nat.mod_lt _ (by decide)), ih⟩

theorem decRev_ne_nil (fuel n : Nat) : decRev (fuel + 1) n ≠ [] := by
  simp only [decRev]; split <;> simp

theorem div_ten_lt {fuel n : Nat} (h : n < fuel + 1) (h10 : ¬ n < 10) : n / 10 < fuel :=
  Nat.lt_of_lt_of_le (Nat.div_lt_self (Nat.lt_of_lt_of_le (by decide) (Nat.le_of_not_lt h10)) (by decide))
    (Nat.le_of_lt_succ h)

/-- `foldr`: `decRev` gives the least significant digit first -/
theorem decRev_val (fuel n : Nat) (h : n < fuel) :
    (decRev fuel n).foldr (fun d a => a * 10 + digitVal d) 0 = n := by
  fun_induction decRev fuel n with
  | case1 => cases h
  | case2 _ _ h10 => rw [List.foldr_cons, List.foldr_nil, digitVal_ofNat h10, Nat.zero_mul, Nat.zero_add]
  | case3 _ n h10 ih =>
    rw [List.foldr_cons, ih (div_ten_lt h h10), digitVal_ofNat (Nat.mod_lt _ (by decide))]
    exact Nat.div_add_mod' n 10

theorem decRev_length (fuel n k : Nat) (h : n < fuel) (hk : 1 ≤ k) (hn : n < 10 ^ k) :
    (decRev fuel n).length ≤ k := by
  fun_induction decRev fuel n generalizing k with
  | case1 => cases h
  | case2 => exact hk
  | case3 _ n h10 ih =>
    obtain ⟨k, rfl⟩ := Nat.exists_eq_add_one.mpr hk
    have hd : n / 10 < 10 ^ k := Nat.div_lt_of_lt_mul (by rw [Nat.mul_comm, ← Nat.pow_succ]; exact hn)
    have hk1 : 1 ≤ k := Nat.pos_of_ne_zero fun e => by subst e; exact h10 hn
    exact Nat.succ_le_succ (ih k (div_ten_lt h h10) hk1 hd)

theorem natToDec_digits (n : Nat) : ∀ c ∈ natToDec n, isDigit c = true := by
  intro c h
  simp only [natToDec, List.mem_reverse] at h
  exact decRev_digits _ _ _ h

theorem natToDec_ne_nil (n : Nat) : natToDec n ≠ [] := by
  simp only [natToDec, ne_eq, List.reverse_eq_nil_iff]
  exact decRev_ne_nil n n

theorem digitsVal_natToDec (n : Nat) : digitsVal (natToDec n) = n := by
  simp only [digitsVal, natToDec, List.foldl_reverse]
  exact decRev_val (n + 1) n (Nat.lt_succ_self n)

theorem natToDec_length_le {n k : Nat} (hk : 1 ≤ k) (h : n < 10 ^ k) : (natToDec n).length ≤ k := by
  rw [natToDec, List.length_reverse]
  exact decRev_length _ _ _ (Nat.lt_succ_self n) hk h

theorem foldl_digits_lt (ds : Bytes) (a : Nat) (h : ∀ c ∈ ds, isDigit c = true) :
    ds.foldl (fun a d => a * 10 + digitVal d) a < (a + 1) * 10 ^ ds.length := by
  induction ds generalizing a with
  | nil => simp
  | cons d ds ih =>
    have hd : a * 10 + digitVal d + 1 ≤ (a + 1) * 10 := by
      rw [Nat.add_one_mul, Nat.add_assoc]
      exact Nat.add_le_add_left (digitVal_lt (h d List.mem_cons_self)) _
    rw [List.foldl_cons, List.length_cons, Nat.pow_succ, Nat.mul_comm (10 ^ ds.length) 10, ← Nat.mul_assoc]
    exact Nat.lt_of_lt_of_le (ih _ fun c hc => h c (List.mem_cons_of_mem _ hc)) (Nat.mul_le_mul_right _ hd)

theorem digitsVal_lt_pow (ds : Bytes) (h : ∀ c ∈ ds, isDigit c = true) :
    digitsVal ds < 10 ^ ds.length := by
  simpa [digitsVal] using foldl_digits_lt ds 0 h

theorem natToDec_digitsVal_length (ds : Bytes) (hne : ds ≠ []) (h : ∀ c ∈ ds, isDigit c = true) :
    (natToDec (digitsVal ds)).length ≤ ds.length :=
  natToDec_length_le (List.length_pos_iff.mpr hne) (digitsVal_lt_pow ds h)

theorem strtol_of_digit {d : UInt8} (t : Bytes) (hd : isDigit d = true) :
    strtol (d :: t) = (strtolVal false (digitsVal ((d :: t).takeWhile isDigit)),
      ((d :: t).takeWhile isDigit).length) := by
  have hsg := isDigit_ne_sign hd
  -- no sign: the fall-through of `strtolSign`
  have h3 : strtolSign (d :: t) = (false, d :: t, 0) :=
    strtolSign.eq_3 _ (fun _ e => hsg.1 (List.cons.inj e).1) (fun _ e => hsg.2 (List.cons.inj e).1)
  simp [strtol, isDigit_not_space hd, hd, h3]

theorem strtol_digits (ds rest : Bytes) (hne : ds ≠ []) (h : ∀ c ∈ ds, isDigit c = true)
    (hr : ∀ c, rest.head? = some c → isDigit c = false) :
    strtol (ds ++ rest) =
      ((if digitsVal ds > LONG_MAX then (LONG_MAX : Int) else (digitsVal ds : Int)), ds.length) := by
  obtain ⟨d, ds', rfl⟩ := List.exists_cons_of_ne_nil hne
  have htw := takeWhile_append_stop isDigit (d :: ds') rest h hr
  rw [List.cons_append] at htw ⊢
  rw [strtol_of_digit _ (h d (by simp)), htw]
  rfl

theorem strtolSign_length (r : Bytes) : (strtolSign r).2.2 + (strtolSign r).2.1.length = r.length := by
  fun_cases strtolSign r with
  | case1 t => exact Nat.add_comm 1 _
  | case2 t => exact Nat.add_comm 1 _
  | case3 => exact Nat.zero_add _

/-- nothing converted, or digits `ds` after `k` characters of blanks and sign -/
theorem strtol_cases (s : Bytes) :
    strtol s = (0, 0) ∨ ∃ neg ds k, ds ≠ [] ∧ (∀ c ∈ ds, isDigit c = true) ∧
      k + ds.length ≤ s.length ∧ strtol s = (strtolVal neg (digitsVal ds), k + ds.length) := by
  fun_cases strtol s with
  | case1 => exact .inl rfl
  | case2 sg ds hds =>
    refine .inr ⟨_, ds, _, fun e => hds (by rw [e]; rfl), fun c hc => mem_takeWhile_imp hc, ?_, rfl⟩
    have h1 : (s.takeWhile isSpace).length + (s.dropWhile isSpace).length = s.length := by
      rw [← List.length_append, List.takeWhile_append_dropWhile]
    have h2 : sg.2.2 + sg.2.1.length = _ := strtolSign_length (s.dropWhile isSpace)
    rw [← h1, ← h2, Nat.add_assoc]
    exact Nat.add_le_add_left (Nat.add_le_add_left (List.takeWhile_sublist isDigit).length_le _) _

/-- a result neither negative nor `LONG_MAX` was not clamped (`0` for `-0`) -/
theorem strtolVal_toNat {neg : Bool} {v : Nat} (h0 : ¬ strtolVal neg v < 0)
    (hm : strtolVal neg v ≠ (LONG_MAX : Int)) :
    (strtolVal neg v).toNat < LONG_MAX ∧ ((strtolVal neg v).toNat = 0 ∨ (strtolVal neg v).toNat = v) := by
  revert h0 hm
  -- 1 `LONG_MIN`, 2 `-v`, 3 `LONG_MAX`, 4 `v`
  fun_cases strtolVal neg v with
  | case1 => exact fun h0 _ => absurd (Int.negSucc_lt_zero _) h0
  | case2 => rw [Int.toNat_neg_natCast]; exact fun _ _ => ⟨by decide, .inl rfl⟩
  | case3 => exact fun _ hm => absurd rfl hm
  | case4 _ h => exact fun _ hm => ⟨Nat.lt_of_le_of_ne (Nat.le_of_not_lt h) fun e => hm (congrArg _ e), .inr rfl⟩

end XcmModel.Libc
