import XcmModel.Btls
/-!
  The TLS connection machine of xcm_tp_btls.c under any history of handshake steps (as connect/accept make them), send,
  receive and finish calls, with any OpenSSL answers.  After its handshake step a call is a sequence (`Steps`) of
  elementary transitions (`Micro`): what is checked per transition holds after every call (`step_lift`).
-/
namespace XcmModel.Btls

inductive Op where
  | hs (h : HAns)
  | send (buf : Bytes) (h : HAns) (ws : List WAns)
  | recv (cap : Nat) (h : HAns) (ws : List WAns) (r : RAns)
  | fin (h : HAns) (ws : List WAns) (lower : Option Nat)
  deriving Repr

def step (s : St) : Op → St
  | .hs h => tryFinishHandshake s h
  | .send b h ws => (send s b h ws).1
  | .recv c h ws r => (receive s c h ws r).1
  | .fin h ws l => (finish s h ws l).1

def run (s : St) (ops : List Op) : St := ops.foldl step s

def Verified (s : St) : Prop := s.handshakeDone = true ∧ (s.auth = true → s.verdict = .ok)

def Terminal (s : St) : Prop := s.state = .closed ∨ ∃ e, s.state = .bad e

/-- reachable states: ready, or having moved a byte, means verified; while handshaking (`hsOnce`) nothing has moved -/
structure Inv (s : St) : Prop where
  readyVerified : s.state = .ready → Verified s
  ioVerified : (s.written ≠ [] ∨ s.delivered ≠ [] ∨ s.accepted ≠ []) → Verified s
  hsOnce : s.state = .handshaking → s.handshakeDone = false ∧ s.written = [] ∧ s.delivered = [] ∧ s.pend = [] ∧ s.accepted = []
  /-- every byte XCM has accepted was either handed to OpenSSL or is retained, in order -/
  acc : s.accepted = s.written ++ s.pend
  cntW : s.cnt.fromApp = s.accepted.length ∧ s.cnt.toLower = s.written.length
  cntD : s.cnt.toApp = s.delivered.length ∧ s.cnt.fromLower = s.delivered.length

/-- `s'` differs from `s` only in the wait bookkeeping and possibly by having become terminal -/
structure Frame (s s' : St) : Prop where
  auth : s'.auth = s.auth
  hd : s'.handshakeDone = s.handshakeDone
  verdict : s'.verdict = s.verdict
  written : s'.written = s.written
  delivered : s'.delivered = s.delivered
  pend : s'.pend = s.pend
  accepted : s'.accepted = s.accepted
  cnt : s'.cnt = s.cnt
  state : s'.state = s.state ∨ s'.state = .closed ∨ ∃ x, s'.state = .bad x

/-- a state and what flushing the retained bytes makes of it; `toLower` says, without subtraction, that the counter
has grown by what `written` has -/
structure Core (s s' : St) : Prop where
  auth : s'.auth = s.auth
  hd : s'.handshakeDone = s.handshakeDone
  verdict : s'.verdict = s.verdict
  delivered : s'.delivered = s.delivered
  accepted : s'.accepted = s.accepted
  split : s'.written ++ s'.pend = s.written ++ s.pend
  fromApp : s'.cnt.fromApp = s.cnt.fromApp
  toApp : s'.cnt.toApp = s.cnt.toApp
  fromLower : s'.cnt.fromLower = s.cnt.fromLower
  toLower : s'.cnt.toLower + s.written.length = s.cnt.toLower + s'.written.length
  state : s'.state = s.state ∨ s'.state = .closed ∨ ∃ x, s'.state = .bad x

/-- K-openssl-eagain: OpenSSL reports a would-block as WANT_READ/WANT_WRITE, never as SSL_ERROR_SYSCALL+EAGAIN (the
code asserts it) -/
def EvOk : SslEv → Prop
  | .syscall e q => q = true ∨ e ≠ EAGAIN
  | _ => True

def isRS (n : Nat) : Prop := n = RECEIVABLE ∨ n = SENDABLE

/-! The elementary state changes, record updates inside the model's `send`, `receive` and `flushPending`. -/

/-- the wait bookkeeping cleared, as before every SSL call -/
abbrev reset (s : St) : St := { s with sslCondition := 0, sslWants := 0 }

/-- the state an SSL call for condition `c` that did not succeed leaves; `none`: SSL_write returned 0 -/
def failed (s : St) (c : Nat) : Option SslEv → St
  | none => { reset s with state := .closed }
  | some e => processSslEvent (reset s) c e

def wrote (s : St) (buf : Bytes) (rc : Nat) : St :=
  { reset s with cnt := { s.cnt with fromApp := s.cnt.fromApp + rc, toLower := s.cnt.toLower + rc },
                 written := s.written ++ buf.take rc, accepted := s.accepted ++ buf.take rc }

/-- XCM takes over the first `n` bytes of a buffer whose SSL_write could not complete -/
def retain (s : St) (buf : Bytes) (n : Nat) : St :=
  { s with pend := buf.take n, pendWants := s.sslWants, accepted := s.accepted ++ buf.take n,
           cnt := { s.cnt with fromApp := s.cnt.fromApp + n } }

def readData (s : St) (got : Bytes) : St :=
  { reset s with cnt := { s.cnt with fromLower := s.cnt.fromLower + got.length, toApp := s.cnt.toApp + got.length },
                 delivered := s.delivered ++ got }

variable {P : SslEv → Prop} {s s' : St} {onClosed : Res}

theorem Terminal.not_ready (h : Terminal s) : s.state ≠ .ready := by
  rcases h with h | ⟨e, h⟩ <;> rw [h] <;> exact CState.noConfusion

theorem Terminal.not_hs (h : Terminal s) : s.state ≠ .handshaking := by
  rcases h with h | ⟨e, h⟩ <;> rw [h] <;> exact CState.noConfusion

theorem ready_ne_hs (h : s.state = .ready) : s.state ≠ .handshaking := by rw [h]; exact CState.noConfusion

/-- what a call that cannot do its work reports: the errno of a terminal state (`onClosed` when closed), else EAGAIN -/
def stopRes (onClosed : Res) : CState → Res
  | .bad e => .err e
  | .closed => onClosed
  | _ => .err EAGAIN

theorem stopRes_alive (h : ¬ Terminal s) : stopRes onClosed s.state = .err EAGAIN := by
  unfold stopRes
  split
  next e he => exact absurd (Or.inr ⟨e, he⟩) h
  next he => exact absurd (Or.inl he) h
  next => rfl

theorem stopRes_n {k : Nat} {p : Bytes} (h : stopRes onClosed s.state = .n k p) : onClosed = .n k p := by
  unfold stopRes at h
  split at h
  · cases h
  · exact h
  · cases h

theorem Frame.trans {a b c : St} (h1 : Frame a b) (h2 : Frame b c) : Frame a c :=
  ⟨h2.auth.trans h1.auth, h2.hd.trans h1.hd, h2.verdict.trans h1.verdict, h2.written.trans h1.written,
    h2.delivered.trans h1.delivered, h2.pend.trans h1.pend, h2.accepted.trans h1.accepted, h2.cnt.trans h1.cnt,
    h2.state.elim (fun h => by rw [h]; exact h1.state) Or.inr⟩

/-- the wait bookkeeping and the assertion flag lie outside the frame (with their own values: `Frame s s`) -/
theorem frame_wait {c w pw : Nat} {a : Bool} :
    Frame s { s with sslCondition := c, sslWants := w, pendWants := pw, aborted := a } :=
  ⟨rfl, rfl, rfl, rfl, rfl, rfl, rfl, rfl, Or.inl rfl⟩

theorem pse_cases (s : St) (c : Nat) (e : SslEv) :
    (∃ w, isRS w ∧ processSslEvent s c e = { s with sslCondition := c, sslWants := w }) ∨
    (∃ st, (st = .closed ∨ ∃ x, st = .bad x) ∧ processSslEvent s c e = { s with state := st }) ∨
    (¬ EvOk e ∧ processSslEvent s c e = { s with aborted := true }) ∨
    processSslEvent s c e = { s with sslWants := RECEIVABLE } := by
  -- 1 WANT_READ, 2 WANT_WRITE, 3 ZERO_RETURN, 4 SSL_ERROR_SSL; SSL_ERROR_SYSCALL with a queued error (5), else with
  -- errno EAGAIN (6, the assertion), EINPROGRESS (7), EPIPE or 0 (8), any other (9)
  fun_cases processSslEvent s c e with
  | case1 => exact Or.inl ⟨RECEIVABLE, Or.inl rfl, rfl⟩
  | case2 => exact Or.inl ⟨SENDABLE, Or.inr rfl, rfl⟩
  | case3 => exact Or.inr (Or.inl ⟨.closed, Or.inl rfl, rfl⟩)
  | case4 | case5 => exact Or.inr (Or.inl ⟨.bad EPROTO, Or.inr ⟨EPROTO, rfl⟩, rfl⟩)
  | case6 _ hq => exact Or.inr (Or.inr (Or.inl ⟨fun h => h.elim hq (fun x => x rfl), rfl⟩))
  | case7 => exact Or.inr (Or.inr (Or.inr rfl))
  | case8 => exact Or.inr (Or.inl ⟨.closed, Or.inl rfl, rfl⟩)
  | case9 errno => exact Or.inr (Or.inl ⟨.bad errno, Or.inr ⟨errno, rfl⟩, rfl⟩)

theorem frame_pse (s : St) (c : Nat) (e : SslEv) : Frame s (processSslEvent s c e) := by
  rcases pse_cases s c e with ⟨w, _, h⟩ | ⟨st, hst, h⟩ | ⟨_, h⟩ | h <;> rw [h]
  · exact frame_wait
  · exact ⟨rfl, rfl, rfl, rfl, rfl, rfl, rfl, rfl, Or.inr hst⟩
  · exact frame_wait
  · exact frame_wait

theorem frame_failed (s : St) (c : Nat) (e : Option SslEv) : Frame s (failed s c e) := by
  cases e with
  | none => exact ⟨rfl, rfl, rfl, rfl, rfl, rfl, rfl, rfl, Or.inr (Or.inl rfl)⟩
  | some e => exact frame_wait.trans (frame_pse _ c e)

theorem core_of_frame {s s' : St} (f : Frame s s') : Core s s' :=
  ⟨f.auth, f.hd, f.verdict, f.delivered, f.accepted, by rw [f.written, f.pend], by rw [f.cnt], by rw [f.cnt], by rw [f.cnt],
   by rw [f.cnt, f.written], f.state⟩

theorem Core.trans {a b c : St} (h1 : Core a b) (h2 : Core b c) : Core a c := by
  refine ⟨h2.auth.trans h1.auth, h2.hd.trans h1.hd, h2.verdict.trans h1.verdict, h2.delivered.trans h1.delivered,
    h2.accepted.trans h1.accepted, h2.split.trans h1.split, h2.fromApp.trans h1.fromApp, h2.toApp.trans h1.toApp,
    h2.fromLower.trans h1.fromLower, ?_, h2.state.elim (fun h => by rw [h]; exact h1.state) Or.inr⟩
  have := h1.toLower; have := h2.toLower; omega

theorem core_flushStep {rc : Nat} (h : rc ≤ s.pend.length) : Core s (flushStep s rc) :=
  ⟨rfl, rfl, rfl, rfl, rfl, by simp only [flushStep, List.append_assoc, List.take_append_drop], rfl, rfl, rfl,
    by simp only [flushStep, List.length_append, List.length_take, Nat.min_eq_left h, Nat.add_assoc, Nat.add_comm rc], Or.inl rfl⟩

theorem tfh_idle (h : s.state ≠ .handshaking) (a : HAns) : tryFinishHandshake s a = s := by
  unfold tryFinishHandshake; rw [if_pos h]

theorem tfh_ev (h : s.state = .handshaking) (e : SslEv) : tryFinishHandshake s (.ev e) = failed s 0 (some e) := by
  unfold tryFinishHandshake; rw [if_neg (not_not_intro h)]; rfl

theorem tfh_done (h : s.state = .handshaking) (cert : CertRes) :
    tryFinishHandshake s (.done cert) =
      { reset s with state := if s.auth = true → cert = .ok then .ready else .bad EPROTO, handshakeDone := true, verdict := cert } := by
  unfold tryFinishHandshake
  rw [if_neg (not_not_intro h)]
  dsimp only
  by_cases ha : s.auth = true
  · rw [if_pos ha]
    cases cert with
    | ok => rw [if_pos (fun _ => rfl)]
    | none | rejected => rw [if_neg (fun x => CertRes.noConfusion (x ha))]
  · rw [if_neg ha, if_pos (fun x => absurd x ha)]

structure SameData (s s' : St) : Prop where
  written : s'.written = s.written
  delivered : s'.delivered = s.delivered
  accepted : s'.accepted = s.accepted
  cnt : s'.cnt = s.cnt

theorem tfh_data (s : St) (a : HAns) : SameData s (tryFinishHandshake s a) := by
  by_cases h : s.state = .handshaking
  case neg => rw [tfh_idle h]; exact ⟨rfl, rfl, rfl, rfl⟩
  cases a with
  | ev x => rw [tfh_ev h]; have f := frame_failed s 0 (some x); exact ⟨f.written, f.delivered, f.accepted, f.cnt⟩
  | done cert => rw [tfh_done h]; exact ⟨rfl, rfl, rfl, rfl⟩

/-- one elementary transition; `P` holds of the event OpenSSL answered with, if any -/
inductive Micro (P : SslEv → Prop) (s : St) : St → Prop
  | flush (rc : Nat) : rc ≤ s.pend.length → Micro P s (flushStep s rc)
  | failed (c : Nat) (e : Option SslEv) : isRS c → (∀ x, e = some x → P x) → Micro P s (failed s c e)
  | pendWants (w : Nat) : Micro P s { s with pendWants := w }
  | wrote (buf : Bytes) (rc : Nat) : rc ≤ buf.length → s.pend = [] → Micro P s (wrote s buf rc)
  | retain (buf : Bytes) (n : Nat) : n ≤ buf.length → s.pend = [] → Micro P s (retain s buf n)
  | readData (got : Bytes) : Micro P s (readData s got)
  | reset : Micro P s (reset s)

/-- sequences of transitions, each out of a ready state, defined by their use: what every such transition keeps
carries over from `s` to `s'` -/
def Steps (P : SslEv → Prop) (s s' : St) : Prop :=
  ∀ ⦃R : St → Prop⦄, (∀ {a b}, a.state = .ready → Micro P a b → R a → R b) → R s → R s'

theorem Steps.refl (s : St) : Steps P s s := fun _ _ h => h

theorem Steps.one (hr : s.state = .ready) (m : Micro P s s') : Steps P s s' := fun _ hm h => hm hr m h

theorem Steps.trans {a b c : St} (h1 : Steps P a b) (h2 : Steps P b c) : Steps P a c := fun _ hm h => h2 hm (h1 hm h)

theorem nextW_mem (ws : List WAns) : (∀ e, (nextW ws).1 = .ev e → WAns.ev e ∈ ws) ∧ ∀ w ∈ (nextW ws).2, w ∈ ws := by
  cases ws with
  | nil => exact ⟨fun e h => (by cases h), fun w h => (by cases h)⟩
  | cons a t => exact ⟨fun e h => h ▸ List.mem_cons_self, fun w h => List.mem_cons_of_mem _ h⟩

/-- what `flushPending` returns from `s`; `P` holds of every event among the answers `ws` -/
structure Flushed (P : SslEv → Prop) (s : St) (ws : List WAns) (o : St × Option Res × List WAns × Nat) : Prop where
  steps : s.state = .ready → Steps P s o.1
  core : Core s o.1
  rest : ∀ w ∈ o.2.2.1, w ∈ ws
  out : match o.2.1 with
    | none => o.1.pend = [] ∧ o.1.state = s.state
    | some x => x = stopRes (.err EPIPE) o.1.state

theorem flushPending_spec (fuel : Nat) : ∀ (s : St) (ws : List WAns), s.pend.length < fuel → (∀ e, WAns.ev e ∈ ws → P e) →
    Flushed P s ws (flushPending fuel s ws) := by
  induction fuel with
  | zero => intro s ws h; exact absurd h (Nat.not_lt_zero _)
  | succ f ih =>
    intro s ws hf hw
    unfold flushPending
    by_cases he : s.pend.isEmpty = true
    · rw [if_pos he]
      exact ⟨fun _ => .refl _, core_of_frame frame_wait, fun _ h => h, ⟨List.isEmpty_iff.mp he, rfl⟩⟩
    · rw [if_neg he]
      have hlen : 0 < s.pend.length := List.length_pos_iff.mpr (fun h => he (by rw [h]; rfl))
      obtain ⟨hev, hrest⟩ := nextW_mem ws
      generalize nextW ws = wn at hev hrest
      obtain ⟨w, rest⟩ := wn
      cases w with
      | n k =>
        have hk : max 1 (min k s.pend.length) ≤ s.pend.length := Nat.max_le.mpr ⟨hlen, Nat.min_le_right _ _⟩
        have r := ih (flushStep s (max 1 (min k s.pend.length))) rest
          (by simp only [flushStep, List.length_drop]
              -- at least one byte has gone: the fuel still exceeds what is retained
              exact Nat.lt_of_lt_of_le (Nat.sub_lt hlen (Nat.le_max_left _ _)) (Nat.le_of_lt_succ hf))
          (fun e h => hw e (hrest _ h))
        exact ⟨fun hr => (Steps.one hr (.flush _ hk)).trans (r.steps hr),
          (core_flushStep hk).trans r.core, fun w h => hrest _ (r.rest w h), r.out⟩
      | zero =>
        exact ⟨fun hr => .one hr (.failed _ none (Or.inr rfl) (fun x h => (by cases h))), core_of_frame (frame_failed s SENDABLE none),
          hrest, rfl⟩
      | ev e =>
        have fr := frame_failed s SENDABLE (some e)
        have m : Micro P s (failed s SENDABLE (some e)) :=
          .failed _ (some e) (Or.inr rfl) (fun x h => by cases h; exact hw e (hev e rfl))
        simp only  -- computes the `match`
        -- closed, bad, or neither
        split
        next h => exact ⟨fun hr => .one hr m, core_of_frame fr, hrest, h ▸ rfl⟩
        next _ h => exact ⟨fun hr => .one hr m, core_of_frame fr, hrest, h ▸ rfl⟩
        next hc hb =>
          have ht : ¬ Terminal (failed s SENDABLE (some e)) := fun t => t.elim hc (fun ⟨x, h⟩ => hb x h)
          exact ⟨fun hr => (Steps.one hr m).trans (.one ((fr.state.resolve_right ht).trans hr) (.pendWants _)),
            core_of_frame (fr.trans frame_wait), hrest,
            (stopRes_alive ht).symm⟩

/-- the flush as every call makes it: with fuel for all the retained bytes -/
abbrev flushAll (s : St) (ws : List WAns) := flushPending (s.pend.length + 1) s ws

theorem flushAll_spec (s : St) (ws : List WAns) : Flushed (fun e => WAns.ev e ∈ ws) s ws (flushAll s ws) :=
  flushPending_spec _ s ws (Nat.lt_succ_self _) (fun _ h => h)

theorem flushAll_idle (hp : s.pend = []) (ws : List WAns) : flushAll s ws = (s, none, ws, 0) := by
  unfold flushAll flushPending
  rw [hp]
  rfl

theorem flushAll_blocked (hp : s.pend ≠ []) (e : SslEv) (ws : List WAns) (ht : ¬ Terminal (failed s SENDABLE (some e))) :
    flushAll s (.ev e :: ws) =
      ({ failed s SENDABLE (some e) with pendWants := (failed s SENDABLE (some e)).sslWants }, some (.err EAGAIN), ws, 1) := by
  unfold flushAll flushPending
  rw [if_neg (fun h => hp (List.isEmpty_iff.mp h))]
  simp only [nextW]
  split
  next h => exact absurd (Or.inl h) ht
  next x h => exact absurd (Or.inr ⟨x, h⟩) ht
  next => rfl

variable {s1 : St} {ws : List WAns}

theorem stopped {h : HAns} (e1 : tryFinishHandshake s h = s1) (hs : s1.state ≠ .ready) :
    (∀ buf ws, send s buf h ws = (s1, stopRes (.err EPIPE) s1.state, 0)) ∧
    (∀ cap ws r, receive s cap h ws r = (s1, stopRes (.n 0 []) s1.state, false, 0)) ∧
    (∀ ws l, finish s h ws l = (s1, stopRes (.err EPIPE) s1.state, 0)) := by
  subst e1
  unfold send receive finish
  generalize tryFinishHandshake s h = s1 at hs
  -- with the state a constructor, the calls' `match` and that of `stopRes` compute to the same
  obtain ⟨st⟩ := s1
  cases st with
  | ready => exact absurd rfl hs
  | _ => exact ⟨fun _ _ => rfl, fun _ _ _ => rfl, fun _ _ => rfl⟩

theorem Terminal.calls (ht : Terminal s) :
    (∀ buf h ws, send s buf h ws = (s, stopRes (.err EPIPE) s.state, 0)) ∧
    (∀ cap h ws r, receive s cap h ws r = (s, stopRes (.n 0 []) s.state, false, 0)) ∧
    (∀ h ws l, finish s h ws l = (s, stopRes (.err EPIPE) s.state, 0)) :=
  have t := fun h => stopped (tfh_idle ht.not_hs h) ht.not_ready
  ⟨fun buf h ws => (t h).1 buf ws, fun cap h ws r => (t h).2.1 cap ws r, fun h ws l => (t h).2.2 ws l⟩

theorem send_main (s : St) (buf : Bytes) (h : HAns) (ws : List WAns) :
    let o := send s buf h ws
    Steps (fun e => WAns.ev e ∈ ws) (tryFinishHandshake s h) o.1 ∧
    ((o.2.1 = stopRes (.err EPIPE) o.1.state ∧ o.1.accepted = s.accepted) ∨
     (∃ k, o.2.1 = .n k [] ∧ k ≤ buf.length ∧ (0 < buf.length → 1 ≤ k) ∧
       o.1.accepted = s.accepted ++ buf.take k ∧ o.1.state = .ready)) := by
  -- not ready: `stopped`.  Ready: an empty buffer gives 0; else the flush, which may end the call; else one SSL_write
  -- for `buf`, answered `n` (bytes taken), `zero` (closed) or `ev` (closed, bad, or blocked: the bytes are retained)
  rw [← (tfh_data s h).accepted]
  generalize e1 : tryFinishHandshake s h = s1
  by_cases hr : s1.state = .ready
  case neg => rw [(stopped e1 hr).1]; exact ⟨.refl _, Or.inl ⟨rfl, rfl⟩⟩
  -- the statement mentions the call eight times; the walk goes through one copy
  generalize eo : send s buf h ws = o
  unfold send at eo
  rw [e1] at eo
  simp only [hr] at eo
  by_cases hl : buf.length = 0
  · rw [if_pos hl] at eo; subst eo
    exact ⟨.refl _, Or.inr ⟨0, rfl, Nat.zero_le _, fun h => absurd hl (Nat.ne_of_gt h), (List.append_nil _).symm, hr⟩⟩
  rw [if_neg hl] at eo
  have f : Flushed _ s1 ws (flushPending (s1.pend.length + 1) s1 ws) := flushAll_spec s1 ws
  generalize flushPending (s1.pend.length + 1) s1 ws = fo at f eo
  obtain ⟨sf, fr, rest, nf⟩ := fo
  -- the projections of the tuple computed once, before the cases
  dsimp only at eo
  have st := f.steps hr
  have ha := f.core.accepted
  cases fr with
  | some r => subst eo; exact ⟨st, Or.inl ⟨f.out, ha⟩⟩
  | none =>
    obtain ⟨hp, hst⟩ := f.out
    have hsf := hst.trans hr
    obtain ⟨hev, _⟩ := nextW_mem rest
    generalize nextW rest = wn at hev eo
    obtain ⟨w, rest'⟩ := wn
    cases w with
    | n k =>
      subst eo
      have hk : max 1 (min k buf.length) ≤ buf.length := Nat.max_le.mpr ⟨Nat.pos_of_ne_zero hl, Nat.min_le_right _ _⟩
      exact ⟨st.trans (.one hsf (.wrote _ _ hk hp)),
        Or.inr ⟨_, rfl, hk, fun _ => Nat.le_max_left _ _, congrArg (· ++ _) ha, hsf⟩⟩
    | zero =>
      subst eo
      exact ⟨st.trans (.one hsf (.failed _ none (Or.inr rfl) (fun x h => (by cases h)))), Or.inl ⟨rfl, ha⟩⟩
    | ev e =>
      have fr := frame_failed sf SENDABLE (some e)
      have m : Micro (fun e => WAns.ev e ∈ ws) sf (failed sf SENDABLE (some e)) :=
        .failed _ (some e) (Or.inr rfl) (fun x h => by cases h; exact f.rest _ (hev e rfl))
      dsimp only at eo
      -- closed, bad, or neither
      split at eo <;> subst eo
      next h => exact ⟨st.trans (.one hsf m), Or.inl ⟨h ▸ rfl, fr.accepted.trans ha⟩⟩
      next _ h => exact ⟨st.trans (.one hsf m), Or.inl ⟨h ▸ rfl, fr.accepted.trans ha⟩⟩
      next hc hb =>
        have hs3 := (fr.state.resolve_right (fun t => t.elim hc (fun ⟨x, h⟩ => hb x h))).trans hsf
        exact ⟨(st.trans (.one hsf m)).trans (.one hs3 (.retain _ _ (Nat.min_le_left _ _) (fr.pend.trans hp))),
          Or.inr ⟨_, rfl, Nat.min_le_left _ _, fun _ => Nat.le_min.mpr ⟨Nat.pos_of_ne_zero hl, by decide⟩,
            congrArg (· ++ _) (fr.accepted.trans ha), hs3⟩⟩

theorem readStep_ev (sf : St) (cap : Nat) (e : SslEv) :
    readStep sf cap (.ev e) = (failed sf RECEIVABLE (some e), stopRes (.n 0 []) (failed sf RECEIVABLE (some e)).state) := by
  simp only [readStep, failed]
  generalize (processSslEvent _ RECEIVABLE e).state = st
  cases st <;> rfl

theorem readStep_main {sf : St} (hr : sf.state = .ready) (cap : Nat) {r : RAns} (hP : ∀ e, r = .ev e → P e) :
    let o := readStep sf cap r
    Steps P sf o.1 ∧ o.1.accepted = sf.accepted ∧
    ((o.2 = stopRes (.n 0 []) o.1.state ∧ o.1.delivered = sf.delivered) ∨
     (∃ got, got.length ≤ cap ∧ o.2 = .n got.length got ∧ o.1.delivered = sf.delivered ++ got ∧ o.1.state = .ready)) := by
  cases r with
  | data bs =>
    unfold readStep
    dsimp only
    split
    · exact ⟨.one hr .reset, rfl, Or.inl ⟨(stopRes_alive (fun t => t.not_ready hr)).symm, rfl⟩⟩
    · exact ⟨.one hr (.readData _), rfl, Or.inr ⟨_, by rw [List.length_take]; exact Nat.min_le_left _ _, rfl, rfl, hr⟩⟩
  | ev e =>
    rw [readStep_ev]
    have f := frame_failed sf RECEIVABLE (some e)
    exact ⟨.one hr (.failed _ (some e) (Or.inl rfl) (fun x hx => by cases hx; exact hP e rfl)), f.accepted, Or.inl ⟨rfl, f.delivered⟩⟩

theorem receive_ready {h : HAns} (e1 : tryFinishHandshake s h = s1) (hs : s1.state = .ready) (cap : Nat) (r : RAns)
    {o : St × Option Res × List WAns × Nat} (eo : flushAll s1 ws = o) :
    (Terminal o.1 → receive s cap h ws r = (o.1, stopRes (.n 0 []) o.1.state, false, o.2.2.2)) ∧
    (¬ Terminal o.1 → receive s cap h ws r = ((readStep o.1 cap r).1, (readStep o.1 cap r).2, true, o.2.2.2)) := by
  subst e1 eo
  unfold receive flushAll
  generalize tryFinishHandshake s h = s1 at hs
  simp only [hs]
  generalize flushPending (s1.pend.length + 1) s1 ws = o
  -- bad, closed, or neither
  split
  next e he => exact ⟨fun _ => he ▸ rfl, fun t => absurd (Or.inr ⟨e, he⟩) t⟩
  next he => exact ⟨fun _ => he ▸ rfl, fun t => absurd (Or.inl he) t⟩
  next hb hc => exact ⟨fun t => t.elim (fun x => absurd x hc) (fun ⟨x, hx⟩ => absurd hx (hb x)), fun _ => rfl⟩

theorem receive_main (s : St) (cap : Nat) (h : HAns) (ws : List WAns) (r : RAns) :
    let o := receive s cap h ws r
    Steps (fun e => WAns.ev e ∈ ws ∨ r = .ev e) (tryFinishHandshake s h) o.1 ∧ o.1.accepted = s.accepted ∧
    ((o.2.1 = stopRes (.n 0 []) o.1.state ∧ o.1.delivered = s.delivered) ∨
     (∃ got, got.length ≤ cap ∧ o.2.1 = .n got.length got ∧ o.1.delivered = s.delivered ++ got ∧ o.1.state = .ready)) := by
  have d := tfh_data s h
  rw [← d.delivered, ← d.accepted]
  generalize e1 : tryFinishHandshake s h = s1
  by_cases hs : s1.state = .ready
  · have f := flushPending_spec (P := fun e => WAns.ev e ∈ ws ∨ r = .ev e) (s1.pend.length + 1) s1 ws (Nat.lt_succ_self _)
      (fun _ => Or.inl)
    generalize eo : flushPending (s1.pend.length + 1) s1 ws = o at f
    have c := f.core
    by_cases ht : Terminal o.1
    · rw [(receive_ready e1 hs cap r eo).1 ht]; exact ⟨f.steps hs, c.accepted, Or.inl ⟨rfl, c.delivered⟩⟩
    · rw [(receive_ready e1 hs cap r eo).2 ht, ← c.accepted, ← c.delivered]
      have m := readStep_main (P := fun e => WAns.ev e ∈ ws ∨ r = .ev e) ((c.state.resolve_right ht).trans hs) cap (fun _ => Or.inr)
      exact ⟨(f.steps hs).trans m.1, m.2⟩
  · rw [(stopped e1 hs).2.1]; exact ⟨.refl _, rfl, Or.inl ⟨rfl, rfl⟩⟩

/-- what `btls_finish` reports once nothing is retained: the answer of the TCP socket below -/
def finRes : Option Nat → Res
  | none => .n 0 []
  | some e => .err e

theorem finish_ready {h : HAns} (e1 : tryFinishHandshake s h = s1) (hs : s1.state = .ready) (l : Option Nat)
    {o : St × Option Res × List WAns × Nat} (eo : flushAll s1 ws = o) :
    finish s h ws l = (o.1, o.2.1.getD (finRes l), o.2.2.2) := by
  subst e1 eo
  unfold finish flushAll
  generalize tryFinishHandshake s h = s1 at hs
  simp only [hs]
  generalize flushPending (s1.pend.length + 1) s1 ws = o
  obtain ⟨sf, fr, rest, nf⟩ := o
  cases fr with
  | some r => rfl
  | none => cases l <;> rfl

theorem finish_main (s : St) (h : HAns) (ws : List WAns) (l : Option Nat) :
    let o := finish s h ws l
    Steps (fun e => WAns.ev e ∈ ws) (tryFinishHandshake s h) o.1 ∧
    (o.2.1 = stopRes (.err EPIPE) o.1.state ∨ (o.2.1 = finRes l ∧ o.1.pend = [] ∧ o.1.state = .ready)) := by
  generalize e1 : tryFinishHandshake s h = s1
  by_cases hs : s1.state = .ready
  · have f := flushAll_spec s1 ws
    generalize eo : flushAll s1 ws = o at f
    rw [finish_ready e1 hs l eo]
    obtain ⟨sf, fr, rest, nf⟩ := o
    refine ⟨f.steps hs, ?_⟩
    cases fr with
    | some r => exact Or.inl f.out
    | none => exact Or.inr ⟨rfl, f.out.1, f.out.2.trans hs⟩
  · rw [(stopped e1 hs).2.2]; exact ⟨.refl _, Or.inl rfl⟩

def HOk : HAns → Prop
  | .ev e => EvOk e
  | _ => True

def WOk : WAns → Prop
  | .ev e => EvOk e
  | _ => True

def ROk : RAns → Prop
  | .ev e => EvOk e
  | _ => True

/-- every OpenSSL answer the call is given respects K-openssl-eagain -/
def OpOk : Op → Prop
  | .hs h => HOk h
  | .send _ h ws => HOk h ∧ ∀ w ∈ ws, WOk w
  | .recv _ h ws r => HOk h ∧ (∀ w ∈ ws, WOk w) ∧ ROk r
  | .fin h ws _ => HOk h ∧ ∀ w ∈ ws, WOk w

/-- A call is its handshake step followed by elementary transitions on the answers it was given: what these keep, every
call keeps.  The premises on `OpOk op` hand K-openssl-eagain down to the answers; only `WInv` needs them. -/
theorem step_lift {R : St → Prop} (op : Op) (h0 : ∀ h, (OpOk op → HOk h) → R (tryFinishHandshake s h))
    (hm : ∀ {P a b}, (∀ e, P e → OpOk op → EvOk e) → a.state = .ready → Micro P a b → R a → R b) : R (step s op) := by
  cases op with
  | hs h => exact h0 h id
  | send b h ws => exact (send_main s b h ws).1 (hm fun _ he ho => ho.2 (.ev _) he) (h0 h And.left)
  | recv c h ws r =>
    exact (receive_main s c h ws r).1
      (hm fun e he ho => he.elim (ho.2.1 (.ev e)) (fun hr => (show ROk (.ev e) from hr ▸ ho.2.2))) (h0 h And.left)
  | fin h ws l => exact (finish_main s h ws l).1 (hm fun _ he ho => ho.2 (.ev _) he) (h0 h And.left)

/-- the handshake step is idle and no transition leaves a state that is not ready -/
theorem step_terminal (h : Terminal s) (op : Op) : step s op = s :=
  step_lift (R := (· = s)) op (fun a _ => tfh_idle h.not_hs a) (fun _ hr _ e => absurd (e ▸ hr) h.not_ready)

theorem run_terminal (ops : List Op) {s : St} (h : Terminal s) : run s ops = s :=
  List.foldlRecOn (motive := (· = s)) ops step rfl fun _ e op _ => e.symm ▸ step_terminal h op

theorem inv_frame {s s' : St} (h : Inv s) (f : Frame s s') : Inv s' := by
  have hv : Verified s → Verified s' := fun v => ⟨f.hd.trans v.1, fun x => f.verdict.trans (v.2 (f.auth ▸ x))⟩
  have hst : s'.state = s.state ∨ Terminal s' := f.state
  refine ⟨fun hr => hst.elim (fun st => hv (h.readyVerified (st ▸ hr))) (fun t => absurd hr t.not_ready), ?_,
    fun hh => hst.elim (fun st => ?_) (fun t => absurd hh t.not_hs), ?_, ?_, ?_⟩
  · intro hio; rw [f.written, f.delivered, f.accepted] at hio; exact hv (h.ioVerified hio)
  · rw [f.hd, f.written, f.delivered, f.pend, f.accepted]; exact h.hsOnce (st ▸ hh)
  · rw [f.accepted, f.written, f.pend]; exact h.acc
  · rw [f.cnt, f.accepted, f.written]; exact h.cntW
  · rw [f.cnt, f.delivered]; exact h.cntD

theorem init_inv (a : Bool) : Inv { auth := a } := by
  constructor <;> simp [Verified]

theorem tfh_inv (h : Inv s) (a : HAns) : Inv (tryFinishHandshake s a) := by
  by_cases hs : s.state = .handshaking
  case neg => rw [tfh_idle hs]; exact h
  cases a with
  | ev x => rw [tfh_ev hs]; exact inv_frame h (frame_failed s 0 (some x))
  | done cert =>
    rw [tfh_done hs]
    obtain ⟨_, hw, hdl, _, hac⟩ := h.hsOnce hs
    by_cases hv : s.auth = true → cert = .ok
    · rw [if_pos hv]
      exact ⟨fun _ => ⟨rfl, hv⟩, fun _ => ⟨rfl, hv⟩, fun x => (by cases x), h.acc, h.cntW, h.cntD⟩
    · rw [if_neg hv]
      exact ⟨fun x => (by cases x), fun x => x.elim (absurd hw) (fun x => x.elim (absurd hdl) (absurd hac)), fun x => (by cases x),
        h.acc, h.cntW, h.cntD⟩

theorem Micro.inv (hr : s.state = .ready) (m : Micro P s s') (h : Inv s) : Inv s' := by
  have hv := h.readyVerified hr
  cases m with
  | flush rc h2 =>
    refine ⟨fun _ => hv, fun _ => hv, fun x => absurd x (ready_ne_hs hr), ?_, ⟨h.cntW.1, ?_⟩, h.cntD⟩
    · simp only [flushStep, h.acc, List.append_assoc, List.take_append_drop]
    · simp only [flushStep, List.length_append, List.length_take, h.cntW.2, Nat.min_eq_left h2]
  | failed c e _ _ => exact inv_frame h (frame_failed s c e)
  | pendWants w | reset => exact inv_frame h frame_wait
  | wrote buf n hl hp | retain buf n hl hp =>
    refine ⟨fun _ => hv, fun _ => hv, fun x => absurd x (ready_ne_hs hr), ?_, ?_, h.cntD⟩
    · simp only [Btls.wrote, Btls.retain, h.acc, hp, List.append_nil]
    · simp only [Btls.wrote, Btls.retain, List.length_append, List.length_take, Nat.min_eq_left hl, h.cntW.1, h.cntW.2, and_self]
  | readData got =>
    refine ⟨fun _ => hv, fun _ => hv, fun x => absurd x (ready_ne_hs hr), h.acc, h.cntW, ?_⟩
    simp only [Btls.readData, List.length_append, h.cntD.1, h.cntD.2, and_self]

theorem step_inv (hi : Inv s) (op : Op) : Inv (step s op) :=
  step_lift op (fun h _ => tfh_inv hi h) (fun _ => Micro.inv)

theorem run_inv (ops : List Op) {s : St} (hi : Inv s) : Inv (run s ops) :=
  List.foldlRecOn ops step hi fun _ h op _ => step_inv h op

/-- `ssl_condition` and `ssl_wants` are as `conn_update` needs them and no assertion has fired; kept under
K-openssl-eagain (`OpOk`) -/
structure WInv (s : St) : Prop where
  hsWants : s.state = .handshaking → isRS s.sslWants
  condWants : s.sslCondition ≠ 0 → isRS s.sslWants ∧ isRS s.sslCondition
  noAbort : s.aborted = false

/-- nothing is asked of `s.sslCondition`, `s.sslWants`: an event sets what OpenSSL waits for or ends the connection -/
theorem failed_winv (ha : s.aborted = false) {c : Nat} (hc : c = 0 ∨ isRS c) {e : Option SslEv} (he : ∀ x, e = some x → EvOk x) :
    WInv (failed s c e) := by
  cases e with
  | none => exact ⟨fun h => (by cases h), fun h => absurd rfl h, ha⟩
  | some e =>
    show WInv (processSslEvent (reset s) c e)
    rcases pse_cases (reset s) c e with ⟨w, hw, h⟩ | ⟨st, hst, h⟩ | ⟨hn, _⟩ | h
    · rw [h]; exact ⟨fun _ => hw, fun hne => ⟨hw, hc.resolve_left hne⟩, ha⟩
    · rw [h]; exact ⟨fun x => absurd x (Terminal.not_hs hst), fun hne => absurd rfl hne, ha⟩
    · exact absurd (he e rfl) hn
    · rw [h]; exact ⟨fun _ => Or.inl rfl, fun hne => absurd rfl hne, ha⟩

theorem tfh_winv_of_hs (a : HAns) (ha : HOk a) (hab : s.aborted = false) (hst : s.state = .handshaking) :
    WInv (tryFinishHandshake s a) := by
  cases a with
  | ev x => rw [tfh_ev hst]; exact failed_winv hab (Or.inl rfl) (fun y hy => by cases hy; exact ha)
  | done cert =>
    rw [tfh_done hst]
    exact ⟨fun h => (by dsimp only at h; split at h <;> cases h), fun h => absurd rfl h, hab⟩

theorem tfh_winv (hi : WInv s) (a : HAns) (ha : HOk a) : WInv (tryFinishHandshake s a) := by
  by_cases hst : s.state = .handshaking
  · exact tfh_winv_of_hs a ha hi.noAbort hst
  · rw [tfh_idle hst]; exact hi

theorem Micro.winv (hP : ∀ e, P e → EvOk e) (hr : s.state = .ready) (m : Micro P s s') (h : WInv s) : WInv s' := by
  cases m with
  | failed c e hc he => exact failed_winv h.noAbort (Or.inr hc) (fun x hx => hP x (he x hx))
  | pendWants w | retain buf n _ _ => exact ⟨h.hsWants, h.condWants, h.noAbort⟩
  | flush rc _ | wrote buf rc _ _ | readData got | reset => exact ⟨fun x => absurd x (ready_ne_hs hr), fun x => absurd rfl x, h.noAbort⟩

theorem step_winv (hi : WInv s) (op : Op) (ho : OpOk op) : WInv (step s op) :=
  step_lift op (fun h hh => tfh_winv hi h (hh ho)) (fun hP => Micro.winv fun e he => hP e he ho)

theorem run_winv (ops : List Op) {s : St} (hi : WInv s) (ho : ∀ op ∈ ops, OpOk op) : WInv (run s ops) :=
  List.foldlRecOn ops step hi fun _ h op hm => step_winv h op (ho op hm)

structure Grow (s s' : St) : Prop where
  fromApp : s.cnt.fromApp ≤ s'.cnt.fromApp
  toLower : s.cnt.toLower ≤ s'.cnt.toLower
  toApp : s.cnt.toApp ≤ s'.cnt.toApp
  fromLower : s.cnt.fromLower ≤ s'.cnt.fromLower

theorem Grow.trans {a b c : St} (h1 : Grow a b) (h2 : Grow b c) : Grow a c :=
  ⟨Nat.le_trans h1.fromApp h2.fromApp, Nat.le_trans h1.toLower h2.toLower, Nat.le_trans h1.toApp h2.toApp,
   Nat.le_trans h1.fromLower h2.fromLower⟩

theorem Grow.of_eq {s s' : St} (h : s'.cnt = s.cnt) : Grow s s' := by
  constructor <;> rw [h] <;> exact Nat.le_refl _

theorem Micro.grow (m : Micro P s s') : Grow s s' := by
  cases m with
  | flush rc _ => exact ⟨Nat.le_refl _, Nat.le_add_right _ _, Nat.le_refl _, Nat.le_refl _⟩
  | failed c e _ _ => exact .of_eq (frame_failed s c e).cnt
  | pendWants w | reset => exact .of_eq rfl
  | wrote buf rc _ _ => exact ⟨Nat.le_add_right _ _, Nat.le_add_right _ _, Nat.le_refl _, Nat.le_refl _⟩
  | retain buf n _ _ => exact ⟨Nat.le_add_right _ _, Nat.le_refl _, Nat.le_refl _, Nat.le_refl _⟩
  | readData got => exact ⟨Nat.le_refl _, Nat.le_refl _, Nat.le_add_right _ _, Nat.le_add_right _ _⟩

theorem step_grows (s : St) (op : Op) : Grow s (step s op) :=
  step_lift op (fun h _ => .of_eq (tfh_data s h).cnt) (fun _ _ m g => g.trans m.grow)

end XcmModel.Btls
