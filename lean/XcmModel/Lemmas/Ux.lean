import XcmModel.Ux
/-! What C01 and C17 say of histories of the seqpacket transports ux/uxf follows from `Inv`, kept by every step. -/
namespace XcmModel.Ux

def sumLen (l : List Bytes) : Nat := (l.map List.length).sum

@[simp] theorem sumLen_nil : sumLen [] = 0 := rfl
@[simp] theorem sumLen_append (a b : List Bytes) : sumLen (a ++ b) = sumLen a + sumLen b := by
  simp [sumLen]
@[simp] theorem sumLen_singleton (m : Bytes) : sumLen [m] = m.length := by simp [sumLen]

/-- what was accepted is what was consumed, then what the kernel still queues; each end counts its own direction only -/
structure Inv (l : Link) : Prop where
  acc : l.accepted = l.fulls ++ l.chan
  ret : l.returned = List.zipWith (fun m c => m.take c) l.fulls l.caps
  len : l.fulls.length = l.caps.length
  valid : ∀ m ∈ l.accepted, 1 ≤ m.length ∧ m.length ≤ Generated.UX_MAX_MSG
  aFromM : l.a.cnt.fromAppM = l.accepted.length
  aFromB : l.a.cnt.fromAppB = sumLen l.accepted
  aToM : l.a.cnt.toLowerM = l.accepted.length
  aToB : l.a.cnt.toLowerB = sumLen l.accepted
  aRx : l.a.cnt.toAppM = 0 ∧ l.a.cnt.toAppB = 0 ∧ l.a.cnt.fromLowerM = 0 ∧ l.a.cnt.fromLowerB = 0
  bFromM : l.b.cnt.fromLowerM = l.fulls.length
  bFromB : l.b.cnt.fromLowerB = sumLen l.fulls
  bToM : l.b.cnt.toAppM = l.fulls.length
  bToB : l.b.cnt.toAppB = sumLen l.returned
  bTx : l.b.cnt.fromAppM = 0 ∧ l.b.cnt.fromAppB = 0 ∧ l.b.cnt.toLowerM = 0 ∧ l.b.cnt.toLowerB = 0

theorem inv_init : Inv ({} : Link) := by
  constructor <;> simp

theorem Inv.ret_length {l : Link} (h : Inv l) : l.returned.length = l.fulls.length := by
  rw [h.ret, List.length_zipWith, h.len, Nat.min_self]

theorem send_err (s : St) (m : Bytes) (k : KSend) (e : Nat) (h : (send s m k).2.1 = .err e) :
    (send s m k).1 = s ∧ (send s m k).2.2 = none := by
  revert h
  fun_cases send s m k with
  | case4 => nofun  -- the one path that returns `ok`
  | _ => exact fun _ => ⟨rfl, rfl⟩

theorem step_send (l : Link) (m : Bytes) (ke : Option Nat) :
    l.step (.send m ke) =
      if m.length > Generated.UX_MAX_MSG ∨ m.length = 0 ∨ ke ≠ none then l else
      { l with a := { cnt := { l.a.cnt with fromAppB := l.a.cnt.fromAppB + m.length,
                                            fromAppM := l.a.cnt.fromAppM + 1,
                                            toLowerB := l.a.cnt.toLowerB + m.length,
                                            toLowerM := l.a.cnt.toLowerM + 1 } },
               chan := l.chan ++ [m], accepted := l.accepted ++ [m] } := by
  unfold Link.step send
  by_cases h1 : m.length > Generated.UX_MAX_MSG
  · simp [h1]
  · by_cases h2 : m.length = 0
    · simp [h2]
    · cases ke <;> simp [h1, h2]

/-- The head record is consumed and booked whatever `receive` says of it: `.msg (rcd.take cap) rcd`, or `.closed`
(with capacity 0 the call returns 0). -/
theorem step_recv (l : Link) (cap : Nat) (ag : Option Nat) :
    l.step (.recv cap ag) =
      match ag, l.chan with
      | none, rcd :: rest =>
        { l with b := (receive l.b cap (.record rcd)).1, chan := rest, returned := l.returned ++ [rcd.take cap],
                 fulls := l.fulls ++ [rcd], caps := l.caps ++ [cap] }
      | _, _ => l := by
  cases ag with
  | some e => rfl
  | none =>
    rcases l with ⟨a, b, _ | ⟨rcd, rest⟩, acc, ret, fulls, caps⟩
    · rfl
    · simp only [Link.step, receive]
      by_cases h0 : rcd.length = 0
      · simp [h0]
      · by_cases hu : min rcd.length cap = 0 <;> simp [h0, hu]

theorem inv_step (l : Link) (st : Step) (h : Inv l) : Inv (l.step st) := by
  cases st with
  | send m ke =>
    rw [step_send]
    split
    next => exact h
    next hr =>
      exact { h with
        acc := by simp [h.acc]
        valid := List.forall_mem_append.mpr ⟨h.valid, List.forall_mem_singleton.mpr (by omega)⟩
        aFromM := by simp [h.aFromM]
        aFromB := by simp [h.aFromB]
        aToM := by simp [h.aToM]
        aToB := by simp [h.aToB] }
  | recv cap ag =>
    rw [step_recv]
    split
    next rcd rest hc =>
      have hne : rcd.length ≠ 0 := Nat.ne_of_gt (h.valid rcd (by rw [h.acc, hc]; simp)).1
      simp only [receive, if_neg hne]
      exact { h with
        acc := by simp [h.acc, hc]
        ret := by dsimp only; rw [List.zipWith_append h.len, h.ret]; rfl
        len := by simp [h.len]
        bFromM := by simp [h.bFromM]
        bFromB := by simp [h.bFromB]
        bToM := by simp [h.bToM]
        bToB := by simp [h.bToB, List.length_take, Nat.min_comm] }
    next => exact h
  | finishA | finishB => exact h

theorem inv_run (steps : List Step) (l : Link) (h : Inv l) : Inv (l.run steps) :=
  List.foldlRecOn steps Link.step h fun l h s _ => inv_step l s h

end XcmModel.Ux
