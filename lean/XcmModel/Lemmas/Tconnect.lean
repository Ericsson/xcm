import XcmModel.Tconnect
/-
  The invariant of a tconnect.c track.  `tried` is a ghost list of the attempts in order, with what became of each;
  `Sound` and `Complete` tie it to the address list and `next`, `Shape` to the state, the timer and the registration.
  `Quiet` holds between attempts, `Good` between calls.
-/
namespace XcmModel.Tconnect

def AllFailed (l : List (Nat × Att)) : Prop := ∀ p ∈ l, ∃ e, p.2 = .failed e

/-- the errno of the last attempt if that one failed, else 0 -/
def lastErr : List (Nat × Att) → Nat
  | [] => 0
  | [(_, .failed e)] => e
  | [_] => 0
  | _ :: b :: t => lastErr (b :: t)

theorem lastErr_snoc (l : List (Nat × Att)) (i e : Nat) : lastErr (l ++ [(i, .failed e)]) = e := by
  induction l with
  | nil => rfl
  | cons a t ih =>
    cases t with
    | nil => simp [lastErr]
    | cons b t' => simpa [lastErr] using ih

/-- every usable address below `n` has been tried -/
def Complete (t : Track) (n : Nat) : Prop :=
  ∀ j, j < n → j < t.addrs.length → supports t (famAt t j) = true → j ∈ t.tried.map (·.1)

/-- only usable addresses below `next` have been tried -/
def Sound (t : Track) : Prop :=
  ∀ p ∈ t.tried, p.1 < t.next ∧ p.1 < t.addrs.length ∧ supports t (famAt t p.1) = true

/-- pre-state of `track_connect_next`: no attempt is pending -/
structure Quiet (t : Track) : Prop where
  failed : AllFailed t.tried
  sound : Sound t
  complete : Complete t t.next
  badIs : t.bad = lastErr t.tried
  noTimer : t.timer = false
  noReg : t.reg = false

/-- `connected` and `finished` say the same: handing out the descriptor changes nothing else -/
def Shape (t : Track) : Prop :=
  match t.state with
  | .connecting => ∃ init i, t.tried = init ++ [(i, .pending)] ∧ AllFailed init ∧ t.cur = some i ∧ t.timer = true ∧ t.reg = true
      ∧ t.bad = lastErr init
  | .connected => ∃ init i, t.tried = init ++ [(i, .ok)] ∧ AllFailed init ∧ t.cur = some i
  | .finished => ∃ init i, t.tried = init ++ [(i, .ok)] ∧ AllFailed init ∧ t.cur = some i
  | .bad => AllFailed t.tried ∧ t.bad = (if lastErr t.tried = 0 then ENOENT else lastErr t.tried)
      ∧ Complete t t.addrs.length ∧ t.timer = false ∧ t.reg = false
  | .initialDelay => t.tried = [] ∧ t.timer = true ∧ t.next = 0 ∧ t.bad = 0 ∧ t.reg = false

structure Good (t : Track) : Prop where
  sound : Sound t
  complete : Complete t t.next
  shape : Shape t

/-- fields that no operation of the model changes -/
def Same (a b : Track) : Prop := a.addrs = b.addrs ∧ a.fd4 = b.fd4 ∧ a.fd6 = b.fd6

theorem Same.refl (a : Track) : Same a a := ⟨rfl, rfl, rfl⟩
theorem Same.trans {a b c : Track} (h1 : Same a b) (h2 : Same b c) : Same a c :=
  ⟨h1.1.trans h2.1, h1.2.1.trans h2.2.1, h1.2.2.trans h2.2.2⟩

theorem supports_same {a b : Track} (h : Same a b) (f : Fam) : supports a f = supports b f := by
  cases f <;> simp [supports, h.2.1, h.2.2]

theorem famAt_same {a b : Track} (h : Same a b) (i : Nat) : famAt a i = famAt b i := by simp [famAt, h.1]

/-- `Sound` and `Complete` only look at which addresses were tried, not at what became of the attempts -/
theorem idx_congr {t t' : Track} (hs : Same t' t) (hn : t'.next = t.next)
    (hm : t'.tried.map (·.1) = t.tried.map (·.1)) (h : Sound t ∧ Complete t t.next) : Sound t' ∧ Complete t' t'.next := by
  constructor
  · intro p hp
    have : p.1 ∈ t.tried.map (·.1) := hm ▸ List.mem_map_of_mem hp
    obtain ⟨q, hq, hqp⟩ := List.mem_map.mp this
    rw [hn, hs.1, supports_same hs, famAt_same hs, ← hqp]
    exact h.1 q hq
  · intro j h1 h2 h3
    rw [hm]
    rw [hn] at h1; rw [hs.1] at h2; rw [supports_same hs, famAt_same hs] at h3
    exact h.2 j h1 h2 h3

/-- `Sound` and `Complete` once an attempt on `i`, the first usable address from `next` on, is recorded -/
theorem idx_snoc {t : Track} {i : Nat} (h1 : Sound t) (h2 : Complete t t.next)
    (hi : t.next ≤ i ∧ i < t.addrs.length ∧ supports t (famAt t i) = true)
    (hno : ∀ k, t.next ≤ k → k < i → supports t (famAt t k) = false)
    {t' : Track} {a : Att} (hs : Same t' t) (hn : t'.next = i + 1) (htr : t'.tried = t.tried ++ [(i, a)]) : Sound t' ∧ Complete t' t'.next := by
  constructor
  · intro p hp
    rw [hn, hs.1, supports_same hs, famAt_same hs]
    rcases List.mem_append.mp (htr ▸ hp) with hp | hp
    · have := h1 p hp
      exact ⟨Nat.lt_succ_of_lt (Nat.lt_of_lt_of_le this.1 hi.1), this.2⟩
    · rw [List.mem_singleton.mp hp]; exact ⟨Nat.lt_succ_self _, hi.2⟩
  · intro j hj1 hj2 hj3
    rw [htr, List.map_append, List.mem_append]
    rw [hn] at hj1; rw [hs.1] at hj2; rw [supports_same hs, famAt_same hs] at hj3
    rcases Nat.lt_or_ge j t.next with hlt | hge
    · exact Or.inl (h2 j hlt hj2 hj3)
    · rcases Nat.lt_or_ge j i with hlt2 | hge2
      · rw [hno j hge hlt2] at hj3; cases hj3
      · exact Or.inr (List.mem_singleton.mpr (Nat.le_antisymm (Nat.le_of_lt_succ hj1) hge2))

theorem quiet_of_failed {t' : Track} {init : List (Nat × Att)} {i e : Nat} (hf : AllFailed init)
    (htr : t'.tried = init ++ [(i, .failed e)]) (hidx : Sound t' ∧ Complete t' t'.next) (hbad : t'.bad = e)
    (htm : t'.timer = false) (hreg : t'.reg = false) : Quiet t' :=
  { failed := htr ▸ List.forall_mem_append.mpr ⟨hf, List.forall_mem_singleton.mpr ⟨e, rfl⟩⟩, sound := hidx.1, complete := hidx.2,
    badIs := by rw [htr, lastErr_snoc, hbad], noTimer := htm, noReg := hreg }

theorem quiet_fresh (t : Track) (htr : t.tried = []) (hnx : t.next = 0) (hbad : t.bad = 0) (htm : t.timer = false)
    (hreg : t.reg = false) : Quiet t :=
  { failed := fun p hp => by rw [htr] at hp; cases hp
    sound := fun p hp => by rw [htr] at hp; cases hp
    complete := fun j h1 => by rw [hnx] at h1; cases h1
    badIs := by rw [htr, hbad]; rfl
    noTimer := htm, noReg := hreg }

theorem Good.of_idx {t : Track} (h : Sound t ∧ Complete t t.next) (hs : Shape t) : Good t := ⟨h.1, h.2, hs⟩

/-- `getD` makes one clause of "nothing usable was skipped" for both answers: up to the address found, or to the end of
the list when none is -/
theorem findNext_spec (t : Track) (fuel i : Nat) (hf : t.addrs.length < i + fuel) :
    (∀ k, i ≤ k → k < (findNext t fuel i).getD t.addrs.length → supports t (famAt t k) = false) ∧
    ∀ j, findNext t fuel i = some j → i ≤ j ∧ j < t.addrs.length ∧ supports t (famAt t j) = true := by
  -- 1 fuel spent, 2 `i` is past the end, 3 `i` is usable, 4 `i` is skipped
  fun_induction findNext t fuel i with
  | case1 i => exact ⟨fun k h1 h2 => absurd (Nat.lt_of_le_of_lt h1 h2 : i < t.addrs.length) (Nat.lt_asymm hf), nofun⟩
  | case2 n i ha =>
    have : t.addrs.length ≤ i := List.getElem?_eq_none_iff.mp ha
    exact ⟨fun k h1 h2 => absurd (Nat.lt_of_le_of_lt (Nat.le_trans this h1) h2 : t.addrs.length < t.addrs.length)
      (Nat.lt_irrefl _), nofun⟩
  | case3 n i f ha hs =>
    exact ⟨fun k h1 h2 => absurd (Nat.lt_of_le_of_lt h1 h2 : i < i) (Nat.lt_irrefl _),
      fun j h => by cases h; exact ⟨Nat.le_refl _, (List.getElem?_eq_some_iff.mp ha).1, by rw [famAt, ha]; exact hs⟩⟩
  | case4 n i f ha hs ih =>
    obtain ⟨h1, h2⟩ := ih (Nat.succ_add i n ▸ hf)
    refine ⟨fun k hk1 hk2 => ?_, fun j h => have := h2 j h; ⟨Nat.le_of_succ_le this.1, this.2⟩⟩
    rcases Nat.eq_or_lt_of_le hk1 with hk | hk
    · rw [← hk, famAt, ha]; exact Bool.eq_false_iff.mpr hs
    · exact h1 k hk hk2

theorem abort_fields (t : Track) (f : Fam) (tr : List String) :
    (abortConnect t f tr).1 = { t with reg := false, timer := false } := rfl

theorem bindOnce_eq (t : Track) (f : Fam) :
    (bindOnce t f).1 = { t with bound4 := (bindOnce t f).1.bound4, bound6 := (bindOnce t f).1.bound6 } := by
  unfold bindOnce
  cases f <;> dsimp only <;> split <;> rfl

/-- what one attempt leaves: a settled track (`done`), or a quiet one further down the list (`next`) -/
def Step.Ok (t : Track) : Step → Prop
  | .done t' _ _ => Good t' ∧ Same t' t ∧ (t'.state = .connecting ∨ t'.state = .connected)
  | .next t' _ _ => Quiet t' ∧ Same t' t ∧ t'.state = .connecting ∧ t.next < t'.next

theorem attempt_spec (t : Track) (i : Nat) (s : List Tok) (tr : List String)
    (hq : Quiet t) (hs : t.state = .connecting) (hr : findNext t (t.addrs.length + 1) t.next = some i) :
    Step.Ok t (attempt t i s tr) := by
  obtain ⟨hno, hfound⟩ := findNext_spec t (t.addrs.length + 1) t.next (Nat.lt_add_left _ (Nat.lt_succ_self _))
  rw [hr] at hno
  have hi := hfound i hr
  -- however the attempt ends, `i` gets recorded
  have idx := @idx_snoc t i hq.sound hq.complete hi hno
  fun_cases attempt t i s tr with
  | case1 s1 e =>
    -- `tcp_opts_effectuate` failed with `e`
    exact ⟨quiet_of_failed hq.failed rfl (idx ⟨rfl, rfl, rfl⟩ rfl rfl) rfl hq.noTimer hq.noReg, ⟨rfl, rfl, rfl⟩, hs,
      Nat.lt_succ_of_le hi.1⟩
  | case2 t1 c s1 =>
    -- after `tcp_opts_effectuate`: bind, register, connect
    rw [tryConnect, bindOnce_eq, connectStep]
    dsimp only
    cases hc : (pop s1).1 with
    | ok =>
      exact ⟨Good.of_idx (idx ⟨rfl, rfl, rfl⟩ rfl rfl) ⟨t.tried, i, rfl, hq.failed, rfl⟩, ⟨rfl, rfl, rfl⟩, Or.inr rfl⟩
    | err e =>
      exact ⟨quiet_of_failed hq.failed rfl (idx ⟨rfl, rfl, rfl⟩ rfl rfl) rfl rfl rfl, ⟨rfl, rfl, rfl⟩, hs, Nat.lt_succ_of_le hi.1⟩
    | ip | x =>
      refine ⟨Good.of_idx (idx ⟨rfl, rfl, rfl⟩ rfl rfl) ?_, ⟨rfl, rfl, rfl⟩, Or.inl hs⟩
      simp only [Shape, t1, hs]
      exact ⟨t.tried, i, rfl, hq.failed, rfl, trivial, trivial, hq.badIs⟩

theorem quiet_giveUp (t : Track) (hq : Quiet t)
    (hno : ∀ k, t.next ≤ k → k < t.addrs.length → supports t (famAt t k) = false) :
    Good { t with state := .bad, bad := if t.bad = 0 then ENOENT else t.bad } := by
  refine ⟨hq.sound, hq.complete, hq.failed, by rw [← hq.badIs], fun j _ h2 h3 => ?_, hq.noTimer, hq.noReg⟩
  rcases Nat.lt_or_ge j t.next with hlt | hge
  · exact hq.complete j hlt h2 h3
  · exact absurd ((hno j hge h2).symm.trans h3) Bool.false_ne_true

theorem connectNext_good (fuel : Nat) (t : Track) (s : List Tok) (tr : List String)
    (hq : Quiet t) (hs : t.state = .connecting) (hf : t.addrs.length < t.next + fuel + 1) :
    Good (connectNext fuel t s tr).1 ∧ Same (connectNext fuel t s tr).1 t
    ∧ (connectNext fuel t s tr).1.state ≠ .initialDelay ∧ (connectNext fuel t s tr).1.state ≠ .finished := by
  -- 1 fuel spent, 2 no candidate left, 3 the attempt settles the track, 4 it fails at once and the walk goes on
  fun_induction connectNext fuel t s tr with
  | case1 t s tr =>
    -- `hf` at fuel 0: `next` is past the end
    exact ⟨quiet_giveUp t hq (fun k h1 h2 => absurd h2 (Nat.not_lt_of_le (Nat.le_trans (Nat.le_of_lt_succ hf) h1))),
      ⟨rfl, rfl, rfl⟩, TState.noConfusion, TState.noConfusion⟩
  | case2 fuel t s tr hr =>
    have hno := (findNext_spec t (t.addrs.length + 1) t.next (Nat.lt_add_left _ (Nat.lt_succ_self _))).1
    rw [hr] at hno
    exact ⟨quiet_giveUp t hq hno, ⟨rfl, rfl, rfl⟩, TState.noConfusion, TState.noConfusion⟩
  | case3 _ t s tr i hr _ _ _ hat =>
    obtain ⟨hg, hsame, hst⟩ := hat ▸ attempt_spec t i s tr hq hs hr
    -- `connecting` and `connected` are neither of the two
    refine ⟨hg, hsame, ?_, ?_⟩ <;> rcases hst with h | h <;> simp [h]
  | case4 fuel t s tr i hr t' _ _ hat ih =>
    obtain ⟨hq', hsame, hst, hnx⟩ := hat ▸ attempt_spec t i s tr hq hs hr
    have hf' : t'.addrs.length < t'.next + fuel + 1 :=
      hsame.1 ▸ Nat.lt_of_lt_of_le hf (Nat.succ_le_succ (Nat.add_lt_add_right hnx fuel))
    have := ih hq' hst hf'
    exact ⟨this.1, Same.trans this.2.1 hsame, this.2.2⟩

/-- `track_connect_next` with the fuel every caller gives it.  The last conjunct, from here up to `process_good`, is no
part of the argument for `Good`: only `track_get_connected_fd` makes a track `finished`. -/
theorem connectNext_start (t : Track) (s : List Tok) (tr : List String) (hq : Quiet t) (hs : t.state = .connecting) :
    Good (connectNext (t.addrs.length + 1) t s tr).1 ∧ Same (connectNext (t.addrs.length + 1) t s tr).1 t
    ∧ (connectNext (t.addrs.length + 1) t s tr).1.state ≠ .finished :=
  have h := connectNext_good (t.addrs.length + 1) t s tr hq hs (by omega)
  ⟨h.1, h.2.1, h.2.2.2⟩

theorem trackCreate_good (addrs : List Fam) (fd4 fd6 hl delay : Bool) (s : List Tok) (tr : List String) :
    Good (trackCreate addrs fd4 fd6 hl delay s tr).1 ∧ (trackCreate addrs fd4 fd6 hl delay s tr).1.addrs = addrs
    ∧ (trackCreate addrs fd4 fd6 hl delay s tr).1.fd4 = fd4 ∧ (trackCreate addrs fd4 fd6 hl delay s tr).1.fd6 = fd6 := by
  fun_cases trackCreate addrs fd4 fd6 hl delay s tr with
  | case1 => exact ⟨⟨fun p hp => (nomatch hp), fun j h1 => (nomatch h1), rfl, rfl, rfl, rfl, rfl⟩, rfl, rfl, rfl⟩
  | case2 =>
    have := connectNext_start { addrs := addrs, fd4 := fd4, fd6 := fd6, hasLocal := hl } s tr
      (quiet_fresh _ rfl rfl rfl rfl rfl) rfl
    exact ⟨this.1, this.2.1⟩

theorem procDelay_good (t : Track) (s : List Tok) (tr : List String) (hg : Good t) (hnf : t.state ≠ .finished) :
    Good (procDelay t s tr).1 ∧ Same (procDelay t s tr).1 t ∧ (procDelay t s tr).1.state ≠ .finished := by
  fun_cases procDelay t s tr with
  | case1 hs =>
    -- the delay is over: the first attempt starts from a fresh track
    have hsh := hg.shape
    simp only [Shape, hs] at hsh
    obtain ⟨htr, _, hnx, hbad, hreg⟩ := hsh
    exact connectNext_start { t with state := .connecting, timer := false } _ _ (quiet_fresh _ htr hnx hbad rfl hreg) rfl
  | _ => exact ⟨hg, Same.refl _, hnf⟩

theorem setLast_snoc (l : List (Nat × Att)) (i : Nat) (a b : Att) : setLast (l ++ [(i, a)]) b = l ++ [(i, b)] := by
  simp [setLast]

theorem map_fst_setLast (l : List (Nat × Att)) (a : Att) : (setLast l a).map (·.1) = l.map (·.1) := by
  rcases List.eq_nil_or_concat l with rfl | ⟨init, ⟨i, b⟩, rfl⟩
  · rfl
  · rw [List.concat_eq_append, setLast_snoc, List.map_append, List.map_append]; rfl

/-- the track after its current attempt failed with `e` and `track_abort_connect` ran -/
abbrev failCur (t : Track) (e : Nat) : Track :=
  { t with bad := e, tried := setLast t.tried (.failed e), reg := false, timer := false }

theorem quiet_failCur (t : Track) (hg : Good t) (hs : t.state = .connecting) (e : Nat) : Quiet (failCur t e) := by
  have hsh := hg.shape
  simp only [Shape, hs] at hsh
  obtain ⟨init, i, htr, hfail, -⟩ := hsh
  have hsl : (failCur t e).tried = init ++ [(i, .failed e)] := by rw [failCur, htr, setLast_snoc]
  exact quiet_of_failed hfail hsl
    (idx_congr (t := t) ⟨rfl, rfl, rfl⟩ rfl (map_fst_setLast _ _) ⟨hg.sound, hg.complete⟩) rfl rfl rfl

theorem procConnecting_good (t : Track) (s : List Tok) (tr : List String) (hg : Good t) (hnf : t.state ≠ .finished) :
    Good (procConnecting t s tr).1 ∧ Same (procConnecting t s tr).1 t ∧ (procConnecting t s tr).1.state ≠ .finished := by
  fun_cases procConnecting t s tr with
  | case1 hs =>
    -- timed out: the attempt is aborted, `connectNext` takes over from a quiet track
    exact connectNext_start (failCur t ETIMEDOUT) _ _ (quiet_failCur t hg hs _) hs
  | case2 hs =>
    have hsh := hg.shape
    simp only [Shape, hs] at hsh
    obtain ⟨init, i, htr, hfail, hcur, -⟩ := hsh
    have hsl : setLast t.tried .ok = init ++ [(i, .ok)] := by rw [htr, setLast_snoc]
    exact ⟨Good.of_idx (idx_congr (t := t) ⟨rfl, rfl, rfl⟩ rfl (map_fst_setLast _ _) ⟨hg.sound, hg.complete⟩)
      ⟨init, i, hsl, hfail, hcur⟩, ⟨rfl, rfl, rfl⟩, TState.noConfusion⟩
  | case3 hs _ _ _ _ _ _ e => exact connectNext_start (failCur t e) _ _ (quiet_failCur t hg hs _) hs
  | _ => exact ⟨hg, Same.refl _, hnf⟩

theorem process_good (t : Track) (s : List Tok) (tr : List String) (hg : Good t) (hnf : t.state ≠ .finished) :
    Good (process t s tr).1 ∧ Same (process t s tr).1 t ∧ (process t s tr).1.state ≠ .finished := by
  have h1 := procDelay_good t s tr hg hnf
  have h2 := procConnecting_good (procDelay t s tr).1 (procDelay t s tr).2.1 (procDelay t s tr).2.2 h1.1 h1.2.2
  exact ⟨h2.1, Same.trans h2.2.1 h1.2.1, h2.2.2⟩

/-- on a finished track `track_get_connected_fd` hits `ut_assert(0)` (btcp never polls one again): the model reports
`abort` and leaves the track as it is -/
theorem trackGetFd_good (t : Track) (s : List Tok) (tr : List String) (hg : Good t) :
    Good (trackGetFd t s tr).1 ∧ Same (trackGetFd t s tr).1 t := by
  by_cases hnf : t.state = .finished
  · have hp : process t s tr = (t, s, tr) := by
      rw [process, procDelay, if_neg (hnf ▸ TState.noConfusion), procConnecting, if_neg (hnf ▸ TState.noConfusion)]
    simp only [trackGetFd, hp, hnf]
    exact ⟨hg, Same.refl _⟩
  · have h := process_good t s tr hg hnf
    unfold trackGetFd
    generalize process t s tr = r at h ⊢
    obtain ⟨t1, s1, tr1⟩ := r
    dsimp only
    cases hst : t1.state with
    | connected =>
      have hsh := h.1.shape
      simp only [Shape, hst] at hsh
      exact ⟨⟨h.1.sound, h.1.complete, hsh⟩, h.2.1⟩
    | _ => exact ⟨h.1, h.2.1⟩

end XcmModel.Tconnect
