import XcmModel.CtxKey
namespace XcmModel.CtxKey

theorem splitNul_append (s r : Bytes) (h : NoNul s) : splitNul (s ++ 0 :: r) = some (s, r) := by
  induction s with
  | nil => simp [splitNul]
  | cons b t ih =>
    obtain ⟨hb, ht⟩ := not_or.mp (mt List.mem_cons.mpr h)
    simp [splitNul, Ne.symm hb, ih ht]

theorem dec_tag_file (r : Bytes) : dec (tag 1 ++ r) = decFile r := rfl

/-- a left inverse whatever follows: the encoding is prefix-free -/
theorem dec_enc (v : View) (h : v.WF) (rest : Bytes) : dec (enc v ++ rest) = some (v, rest) := by
  cases v with
  | none => rfl
  | value x =>
    rw [enc, List.append_assoc, List.append_assoc]
    -- on the tag 2 `dec` computes to `splitNul` of the rest, mapped
    exact congrArg (Option.map _) (splitNul_append x rest h)
  | file n st =>
    obtain ⟨hn, hs⟩ := h
    simp only [enc, List.append_assoc, dec_tag_file, List.cons_append, List.nil_append, decFile, splitNul_append n _ hn,
      if_true, List.take_left' hs, List.drop_left' hs]
  | link n l t =>
    obtain ⟨hn, hl, ht⟩ := h
    simp only [enc, List.append_assoc, dec_tag_file, List.cons_append, List.nil_append, decFile, splitNul_append n _ hn,
      List.take_left' hl, List.drop_left' hl, List.take_left' ht, List.drop_left' ht]
    -- the mode byte: 1 for the link itself, 0 for a file
    exact if_neg (by decide)

theorem decCfg_encCfg (c : List View) (h : ∀ v ∈ c, v.WF) (rest : Bytes) :
    decCfg c.length (encCfg c ++ rest) = some (c, rest) := by
  induction c with
  | nil => simp [decCfg, encCfg]
  | cons v t ih =>
    obtain ⟨hv, ht⟩ := List.forall_mem_cons.mp h
    have : encCfg (v :: t) ++ rest = enc v ++ (encCfg t ++ rest) := by simp [encCfg]
    rw [this]
    simp [decCfg, dec_enc v hv, ih ht]

end XcmModel.CtxKey
