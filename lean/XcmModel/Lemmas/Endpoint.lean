import XcmModel.Lemmas.Framing
/-! The framing endpoint `Ep` as a machine over `Op`: the sender's invariant (`sendInv_step`); the receiver's three, in
the namespaces of the properties that state them, by one walk (`recv_step`); `delivery_of_inv` joins the ends. -/
namespace XcmModel.C01
open XcmModel.Wire XcmModel.Framing

def Ep.init : Ep := {}

theorem _root_.XcmModel.Framing.Ep.step_receive (e : Ep) (cap : Nat) (ans : List SAns) :
    (e.step (.receive cap ans)).s = (receive e.s e.env cap ans).1 := by
  simp only [Ep.step]
  split <;> rfl

def sumLen (l : List Bytes) : Nat := (l.map List.length).sum

theorem sumLen_snoc (l : List Bytes) (x : Bytes) : sumLen (l ++ [x]) = sumLen l + x.length := by
  simp [sumLen]

/-- the wire and the four send-side counters account for exactly the messages `all` -/
structure SendOk (s : St) (env : Env) (all : List Bytes) : Prop where
  wf : SWf s
  wire : wirePending s env = frames all
  valid : ∀ m ∈ all, Valid m
  cntM : s.cnt.fromAppM = all.length
  cntB : s.cnt.fromAppB = sumLen all
  lowM : s.cnt.fromAppM = s.cnt.toLowerM + (if s.sbuf = [] then 0 else 1)
  lowB : s.cnt.fromAppB = s.cnt.toLowerB + (if s.sbuf = [] then 0 else rd32 s.sbuf)

/-- `extra`: the message of a `send` that failed with a connection error *after* having been buffered; the lower
layer is then dead, so its frame is never completed on the wire -/
def SendInvAt (s : St) (env : Env) (acc : List Bytes) : Prop :=
  ∃ extra, SendOk s env (acc ++ extra) ∧ (extra = [] ∨ ∃ m, extra = [m] ∧ env.txErr ≠ none ∧ s.sbuf ≠ [])

def SendInv (e : Ep) : Prop := SendInvAt e.s e.env e.accepted

theorem sendInv_init : SendInv Ep.init :=
  ⟨[], ⟨Or.inl ⟨rfl, rfl⟩, rfl, nofun, rfl, rfl, rfl, rfl⟩, Or.inl rfl⟩

theorem SendInvAt.of_sendHalf {s s' : St} {env env' : Env} {acc : List Bytes} (h : SendInvAt s env acc)
    (hss : sendHalf s' env' = sendHalf s env) : SendInvAt s' env' acc := by
  obtain ⟨sbuf, sent, tx, txErr, fromM, fromB, toM, toB⟩ := SendHalf.mk.inj hss
  obtain ⟨extra, h, hex⟩ := h
  refine ⟨extra, ⟨?_, ?_, h.valid, fromM.trans h.cntM, fromB.trans h.cntB, ?_, ?_⟩, ?_⟩
  · exact h.wf.elim (fun a => Or.inl ⟨sbuf.trans a.1, sent.trans a.2⟩) (fun a => Or.inr (by rw [sbuf, sent]; exact a))
  · rw [← h.wire]; simp only [wirePending, sbuf, sent, tx]
  · rw [fromM, toM, sbuf]; exact h.lowM
  · rw [fromB, toB, sbuf]; exact h.lowB
  · exact hex.imp id (fun ⟨m, hm, hte, hne⟩ => ⟨m, hm, by rw [txErr]; exact hte, by rw [sbuf]; exact hne⟩)

theorem SendOk.flush {s s' : St} {env env' : Env} {all : List Bytes} {ans ans' : List SAns} {r : Option Nat}
    (h : SendOk s env all) (hf : tryFinishSendAux ans s env = (s', env', r, ans')) : SendOk s' env' all := by
  have sp : TfsSpec s env (s', env', r, ans') := hf ▸ tfs_spec ans s env h.wf
  have lowM := h.lowM
  have lowB := h.lowB
  by_cases hc : s.sbuf = [] ∨ r ≠ none
  · -- buffer and counters as before
    have hs : s'.sbuf = s.sbuf := by
      cases r with
      | some e0 => exact (sp.fail e0 rfl).1
      | none => exact (sp.done rfl).1.trans (hc.elim id (absurd rfl)).symm
    rw [← hs, ← sp.cntSame hc] at lowM lowB
    exact ⟨sp.wf, sp.wire.trans h.wire, h.valid, sp.cntSame hc ▸ h.cntM, sp.cntSame hc ▸ h.cntB, lowM, lowB⟩
  · -- the pending frame went out completely
    obtain ⟨he, hr⟩ := not_or.mp hc
    obtain rfl := Decidable.not_not.mp hr
    have hcnt : s'.cnt = _ := sp.cntDone he rfl
    rw [if_neg he] at lowM lowB
    exact ⟨sp.wf, sp.wire.trans h.wire, h.valid, hcnt ▸ h.cntM, hcnt ▸ h.cntB,
      by rw [hcnt, (sp.done rfl).1, if_pos rfl]; exact lowM, by rw [hcnt, (sp.done rfl).1, if_pos rfl]; exact lowB⟩

theorem SendInvAt.flush {s s' : St} {env env' : Env} {acc : List Bytes} {ans ans' : List SAns} {r : Option Nat}
    (h : SendInvAt s env acc) (hf : tryFinishSendAux ans s env = (s', env', r, ans')) :
    SendInvAt s' env' acc ∧ (r = none → SendOk s' env' acc ∧ s'.sbuf = []) := by
  obtain ⟨extra, h, hex⟩ := h
  have sp : TfsSpec s env (s', env', r, ans') := hf ▸ tfs_spec ans s env h.wf
  rcases hex with rfl | ⟨m, hm, hte, hne⟩
  · exact ⟨⟨[], h.flush hf, Or.inl rfl⟩, fun hr => ⟨List.append_nil acc ▸ h.flush hf, (sp.done hr).1⟩⟩
  · -- the lower layer is dead: the flush is a no-op
    cases hte' : env.txErr with
    | none => exact absurd hte' hte
    | some e0 =>
      obtain ⟨rfl, rfl, k3⟩ : env' = env ∧ s' = s ∧ _ := sp.sticky e0 hte'
      exact ⟨⟨extra, h, Or.inr ⟨m, hm, hte, hne⟩⟩, fun hr => nomatch (k3 hne).symm.trans hr⟩

theorem SendOk.buffer {s : St} {env : Env} {all : List Bytes} {m : Bytes} (h : SendOk s env all)
    (hsb : s.sbuf = []) (hvm : Valid m) :
    SendOk { s with sbuf := frame m, sent := 0,
                    cnt := { s.cnt with fromAppB := s.cnt.fromAppB + m.length,
                                        fromAppM := s.cnt.fromAppM + 1 } } env (all ++ [m]) := by
  have htx : env.tx = frames all := by simpa [wirePending, hsb] using h.wire
  have hrdm : rd32 (frame m) = m.length := by simpa using rd32_frame_append m (valid_lt hvm) []
  have lowM := h.lowM
  have lowB := h.lowB
  rw [if_pos hsb, Nat.add_zero] at lowM lowB
  refine ⟨Or.inr (by rw [frame_length]; exact Nat.add_pos_left (by decide) _), ?_, ?_, ?_, ?_, ?_, ?_⟩
  · simp [wirePending, htx, frames_append, frames_cons, frames_nil]
  · exact List.forall_mem_append.mpr ⟨h.valid, List.forall_mem_singleton.mpr hvm⟩
  · rw [List.length_append, ← h.cntM]; rfl
  · rw [sumLen_snoc, ← h.cntB]
  · rw [if_neg (frame_ne_nil m)]; exact congrArg (· + 1) lowM
  · rw [if_neg (frame_ne_nil m), hrdm]; exact congrArg (· + m.length) lowB

theorem sendInv_step {e : Ep} (h : SendInv e) (op : Op) : SendInv (e.step op) := by
  -- 1 `send`; `receive` that returns a message (2) or none (3); 4 `finish`; an empty segment arriving (5), a non-empty
  -- one (6); 7 `eof`, 8 `rxErr`
  fun_cases Ep.step e op with
  | case1 m ans _ _ _ _ hs =>
    have := send_cases
      (motive := fun r => SendInvAt r.1 r.2.1 (if r.2.2.1 = .ok then e.accepted ++ [m] else e.accepted))
      e.s e.env m ans (fun _ => h) (fun _ _ h1 => (h.flush h1).1) ?_
    · rwa [hs] at this
    intro s1 env1 ans1 s3 env3 r3 ans3 res hv _ h1 h3 hres
    have ⟨h1', hsb⟩ := (h.flush h1).2 rfl
    have h2 := h1'.buffer hsb hv
    rcases hres with ⟨_, rfl⟩ | ⟨e3, rfl, hea, rfl⟩
    · exact ⟨[], by rw [List.append_nil]; exact h2.flush h3, Or.inl rfl⟩
    · -- the frame of `m` was buffered and the lower layer then failed for good: `m` is the `extra`
      have sp3 : TfsSpec _ env1 (s3, env3, some e3, ans3) := h3 ▸ tfs_spec ans1 _ env1 h2.wf
      obtain ⟨g1, _, g3⟩ := sp3.fail e3 rfl
      exact ⟨[m], h2.flush h3, Or.inr ⟨m, rfl, by rw [show env3.txErr = _ from g3 hea]; nofun,
        by rw [show s3.sbuf = frame m from g1]; exact frame_ne_nil m⟩⟩
  | case2 cap ans _ _ _ _ _ hr | case3 cap ans _ _ _ _ hr =>
    have fr := (receive_frame e.s e.env cap ans).1
    rw [hr] at fr
    exact fr.elim h.of_sendHalf (h.flush rfl).1.of_sendHalf
  | case4 ans fin _ _ _ _ hf =>
    have := finish_cases (motive := fun r => SendInvAt r.1 r.2.1 e.accepted) e.s e.env ans fin (fun _ => h)
      (fun hf => (h.flush hf).1)
    rwa [hf] at this
  | _ => exact h.of_sendHalf rfl

theorem sendInv_run (ops : List Op) {e : Ep} (h : SendInv e) : SendInv (e.run ops) :=
  List.foldlRecOn ops Ep.step h fun _ h op _ => sendInv_step h op

/-- what has arrived is the frames consumed, the receive buffer and what is still queued below -/
structure RecvInv (e : Ep) : Prop where
  stream : e.arrived = frames e.fulls ++ e.s.rbuf ++ e.env.rx.flatten
  valid : ∀ m ∈ e.fulls, Valid m
  ret : e.returned = List.zipWith (fun m c => m.take c) e.fulls e.caps
  lens : e.caps.length = e.fulls.length
  rbuf : RbufOk e.s.bad e.s.rbuf
  segs : ∀ g ∈ e.env.rx, g ≠ []
  bound : e.s.rbuf.length ≤ Generated.MBUF_WIRE_MAX
  badv : e.s.bad = none ∨ e.s.bad = some EPROTO

theorem recvInv_init : RecvInv Ep.init :=
  ⟨rfl, nofun, rfl, rfl, Or.inl (by decide), nofun, Nat.zero_le _, Or.inl rfl⟩

theorem RecvInv.of_recvHalf {e : Ep} (h : RecvInv e) {s' : St} {env' : Env} {acc : List Bytes} {rs : List Res}
    (hr : recvHalf s' env' = recvHalf e.s e.env) :
    RecvInv { e with s := s', env := env', accepted := acc, results := rs } := by
  obtain ⟨h1, h2, h3, _⟩ := RecvHalf.mk.inj hr
  exact ⟨by rw [h1, h3]; exact h.stream, h.valid, h.ret, h.lens, by rw [h1, h2]; exact h.rbuf, h3 ▸ h.segs,
    h1 ▸ h.bound, h2 ▸ h.badv⟩

/-- both ends frame the same byte stream, which decodes in one way only (`frames_prefix`) -/
theorem delivery_of_inv {A B : Ep} (hA : SendInv A) (hB : RecvInv B) (hfifo : B.arrived <+: A.env.tx) :
    B.fulls <+: A.accepted := by
  obtain ⟨extra, hS, hex⟩ := hA
  obtain ⟨t, ht⟩ := hfifo
  have heq : frames B.fulls ++ (B.s.rbuf ++ B.env.rx.flatten ++ t ++ A.s.sbuf.drop A.s.sent)
      = frames (A.accepted ++ extra) := by
    rw [← hS.wire, wirePending, ← ht, hB.stream]; simp only [List.append_assoc]
  have hpre : B.fulls <+: A.accepted ++ extra :=
    frames_prefix _ _ _ (fun d hd => valid_lt (hB.valid d hd)) (fun a ha => valid_lt (hS.valid a ha)) heq
  rcases hex with rfl | ⟨m, rfl, _, hne⟩
  · simpa using hpre
  · rcases List.prefix_concat_iff.mp hpre with hall | hp
    · -- all of `accepted ++ [m]` consumed: impossible, the last frame never left A whole
      have hlt : A.s.sent < A.s.sbuf.length := hS.wf.elim (fun h => absurd h.1 hne) id
      have hnil : A.s.sbuf.drop A.s.sent = [] :=
        (List.append_eq_nil_iff.mp (List.append_right_eq_self.mp (hall ▸ heq))).2
      exact absurd (List.drop_eq_nil_iff.mp hnil) (Nat.not_le.mpr hlt)
    · exact hp

structure _root_.XcmModel.C07.SafeInv (e : Ep) : Prop where
  recv : RecvInv e
  noAbort : ∀ r ∈ e.results, C07.Res.isAbort r = false

structure _root_.XcmModel.C17.RCntInv (e : Ep) : Prop where
  toAppM : e.s.cnt.toAppM = e.returned.length
  toAppB : e.s.cnt.toAppB = sumLen e.returned
  fromLowerM : e.s.cnt.fromLowerM = e.fulls.length
  fromLowerB : e.s.cnt.fromLowerB = sumLen e.fulls

theorem _root_.XcmModel.C17.rcnt_of_same {e : Ep} (h : C17.RCntInv e) {s' : St} {env' : Env} {acc : List Bytes}
    {arr : Bytes} {rs : List Res} (hc : RCntSame s' e.s) :
    C17.RCntInv { e with s := s', env := env', accepted := acc, arrived := arr, results := rs } :=
  ⟨hc.1.trans h.toAppM, hc.2.1.trans h.toAppB, hc.2.2.1.trans h.fromLowerM, hc.2.2.2.trans h.fromLowerB⟩

/-- A stretch of history from `e` to `e'`, for the receive half.  C17's counter equations and C07's absence of aborts
need `RecvInv` and ride along as implications: `rcnt_run` and `safeInv_run` assume no more than they name. -/
structure RecvKeeps (e e' : Ep) : Prop where
  recv : RecvInv e'
  cnt : C17.RCntInv e → C17.RCntInv e'
  noAbort : (∀ r ∈ e.results, C07.Res.isAbort r = false) → ∀ r ∈ e'.results, C07.Res.isAbort r = false

theorem recv_step {e : Ep} (h : RecvInv e) (op : Op) : RecvKeeps e (e.step op) := by
  have snoc : ∀ res, C07.Res.isAbort res = false → (∀ r ∈ e.results, C07.Res.isAbort r = false) →
      ∀ r ∈ e.results ++ [res], C07.Res.isAbort r = false :=
    fun _ hres ha => List.forall_mem_append.mpr ⟨ha, List.forall_mem_singleton.mpr hres⟩
  -- numbered as in `sendInv_step`
  fun_cases Ep.step e op with
  | case1 m ans _ _ _ _ hs =>
    have fr := (send_frame e.s e.env m ans).1
    have ab : C07.Res.isAbort (send e.s e.env m ans).2.2.1 = false := by fun_cases send e.s e.env m ans <;> rfl
    rw [hs] at fr ab
    exact ⟨h.of_recvHalf fr, fun c => C17.rcnt_of_same c (.of_recvHalf fr), snoc _ ab⟩
  | case2 cap ans _ _ _ p f hr =>
    have sp := hr ▸ receive_spec e.s e.env cap ans h.rbuf h.segs
    obtain ⟨hv, rfl, hst, hrb, hbad, c1, c2, c3, c4⟩ := sp.msg p f rfl
    exact ⟨{
        stream := by
          rw [h.stream, List.append_assoc, hst, hrb, frames_append, frames_cons, frames_nil]
          simp only [List.append_nil, List.append_assoc]
        valid := List.forall_mem_append.mpr ⟨h.valid, List.forall_mem_singleton.mpr hv⟩
        ret := by rw [List.zipWith_append h.lens.symm, ← h.ret]; rfl
        lens := by rw [List.length_append, List.length_append, h.lens]; rfl
        rbuf := Or.inl (by rw [hrb]; decide), segs := sp.segs, bound := by rw [hrb]; decide, badv := Or.inl hbad },
      fun c => ⟨by rw [c1, c.toAppM, List.length_append]; rfl, by rw [c2, c.toAppB, sumLen_snoc],
        by rw [c3, c.fromLowerM, List.length_append]; rfl, by rw [c4, c.fromLowerB, sumLen_snoc]⟩,
      snoc _ rfl⟩
  | case3 cap ans _ _ _ _ hr hm =>
    have sp := hr ▸ receive_spec e.s e.env cap ans h.rbuf h.segs
    have ⟨q1, q2, q3, q4⟩ := sp.quiet hm
    exact ⟨{ h with
        stream := by rw [h.stream, List.append_assoc, ← q1, ← List.append_assoc]
        rbuf := q2, segs := sp.segs, bound := q2.bound, badv := q4.elim (fun hb => hb ▸ h.badv) Or.inr },
      fun c => C17.rcnt_of_same c q3, snoc _ sp.noAbort⟩
  | case4 ans fin _ _ _ _ hf =>
    have fr := (finish_frame e.s e.env ans fin).1
    have ab : C07.Res.isAbort (finish e.s e.env ans fin).2.2.1 = false := by
      fun_cases finish e.s e.env ans fin <;> rfl
    rw [hf] at fr ab
    exact ⟨h.of_recvHalf fr, fun c => C17.rcnt_of_same c (.of_recvHalf fr), snoc _ ab⟩
  | case5 => exact ⟨h, id, id⟩
  | case6 seg hne =>
    exact ⟨{ h with
        stream := by rw [h.stream]; simp
        segs := List.forall_mem_append.mpr ⟨h.segs, List.forall_mem_singleton.mpr fun e0 => hne (by rw [e0]; rfl)⟩ },
      fun c => C17.rcnt_of_same c (.refl _), id⟩
  | case7 | case8 => exact ⟨h.of_recvHalf rfl, fun c => C17.rcnt_of_same c (.refl _), id⟩

theorem recv_run (ops : List Op) {e : Ep} (h : RecvInv e) : RecvKeeps e (e.run ops) :=
  List.foldlRecOn ops Ep.step ⟨h, id, id⟩ fun _ k op _ =>
    have k' := recv_step k.recv op
    ⟨k'.recv, k'.cnt ∘ k.cnt, k'.noAbort ∘ k.noAbort⟩

theorem recvInv_run (ops : List Op) {e : Ep} (h : RecvInv e) : RecvInv (e.run ops) :=
  (recv_run ops h).recv

theorem _root_.XcmModel.C07.safeInv_run (ops : List Op) {e : Ep} (h : C07.SafeInv e) : C07.SafeInv (e.run ops) :=
  ⟨recvInv_run ops h.recv, (recv_run ops h.recv).noAbort h.noAbort⟩

theorem _root_.XcmModel.C17.rcnt_run (ops : List Op) {e : Ep} (hr : RecvInv e) (h : C17.RCntInv e) :
    C17.RCntInv (e.run ops) :=
  (recv_run ops hr).cnt h

end XcmModel.C01
