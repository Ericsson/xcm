import XcmModel.Api
/- What the transport accepted (`accBytes`, `accSends`), read off the call traces of xcm.c's blocking wrappers. -/
namespace XcmModel.Api

def accBytes : List Call → Nat
  | [] => 0
  | .tpSend _ _ (some n) :: t => n + accBytes t
  | _ :: t => accBytes t

def accSends : List Call → Nat
  | [] => 0
  | .tpSend _ _ (some _) :: t => 1 + accSends t
  | _ :: t => accSends t

def hasWait : List Call → Bool
  | [] => false
  | .wait _ :: _ => true
  | _ :: t => hasWait t

theorem accBytes_append (a b : List Call) : accBytes (a ++ b) = accBytes a + accBytes b := by
  fun_induction accBytes a with
  | case1 => exact (Nat.zero_add _).symm
  | case2 t _ _ _ ih => simp only [List.cons_append, accBytes, ih, Nat.add_assoc]
  -- the head is no accepted send (the case's hypothesis), so the last equation fires
  | case3 t _ _ ih => simp only [List.cons_append, accBytes, ih]

theorem accSends_append (a b : List Call) : accSends (a ++ b) = accSends a + accSends b := by
  fun_induction accSends a with
  | case1 => exact (Nat.zero_add _).symm
  | case2 t _ _ _ ih => simp only [List.cons_append, accSends, ih, Nat.add_assoc]
  | case3 t _ _ ih => simp only [List.cons_append, accSends, ih]

@[simp] theorem accBytes_wait (c : Nat) : accBytes [Call.wait c] = 0 := rfl
@[simp] theorem accBytes_fin : accBytes [Call.tpFinish] = 0 := rfl
@[simp] theorem accSends_wait (c : Nat) : accSends [Call.wait c] = 0 := rfl
@[simp] theorem accSends_fin : accSends [Call.tpFinish] = 0 := rfl

/-- of `socket_wait`'s result only the verdict depends on the answer it consumes -/
theorem socketWait_eq (cond : Nat) (s : List Ans) (tr : List Call) :
    socketWait cond s tr = ((socketWait cond s tr).1, (next s).2, tr ++ [.wait cond]) := by
  unfold socketWait
  generalize next s = p
  obtain ⟨a, t⟩ := p
  cases a <;> rfl

/-- `socket_finish` only appends `tpFinish` and `wait 0`, which no additive measure of accepted data counts -/
theorem socketFinish_quiet (f : List Call → Nat) (hf : ∀ a b, f (a ++ b) = f a + f b)
    (h1 : f [.tpFinish] = 0) (h2 : f [.wait 0] = 0) (fuel : Nat) (s : List Ans) (tr : List Call) :
    f (socketFinish fuel s tr).2.2 = f tr := by
  induction fuel generalizing s tr with
  | zero => rfl
  | succ n ih =>
    have hfin : f (tr ++ [.tpFinish]) = f tr := by rw [hf, h1, Nat.add_zero]
    unfold socketFinish
    generalize next s = p
    obtain ⟨a, t⟩ := p
    cases a with
    | ok k => exact hfin
    | err e =>
      simp only
      split
      · rw [socketWait_eq]
        cases (socketWait 0 t _).1
        · rw [ih, hf, h2, Nat.add_zero, hfin]
        · rw [hf, h2, Nat.add_zero, hfin]
      · exact hfin

/-- C02: the count `bytestream_bsend` returns is what the transport accepted (`h`: the trace so far accounts for `sent`) -/
theorem bsend_acc (fuel len sent : Nat) (s : List Ans) (tr : List Call) (h : accBytes tr = sent) :
    (∀ n, (bytestreamBsend fuel len sent s tr).1 = .rc n → accBytes (bytestreamBsend fuel len sent s tr).2.2 = n)
    ∧ accBytes (bytestreamBsend fuel len sent s tr).2.2 ≥ sent := by
  induction fuel generalizing sent s tr with
  | zero => exact ⟨fun _ hn => Res.noConfusion hn, Nat.le_of_eq h.symm⟩
  | succ f ih =>
    unfold bytestreamBsend
    generalize next s = p
    obtain ⟨a, t⟩ := p
    cases a with
    | ok k =>
      simp only
      generalize clampK k (len - sent) = m
      have hm : accBytes (tr ++ [.tpSend sent (len - sent) (some m)]) = sent + m := by rw [accBytes_append, h]; rfl
      by_cases hlt : sent + m < len
      · rw [if_pos hlt]
        exact ⟨(ih _ _ _ hm).1, Nat.le_trans (Nat.le_add_right sent m) (ih _ _ _ hm).2⟩
      · rw [if_neg hlt]
        exact ⟨fun n hn => by cases hn; exact hm, hm ▸ Nat.le_add_right sent m⟩
    | err e =>
      simp only
      have hq := (accBytes_append tr [.tpSend sent (len - sent) none]).trans h
      by_cases he : e ≠ EAGAIN
      · rw [if_pos he]
        exact ⟨fun _ hn => Res.noConfusion hn, Nat.le_of_eq hq.symm⟩
      · rw [if_neg he]
        have hw := (accBytes_append _ [.wait Generated.XCM_SO_SENDABLE]).trans hq
        rw [socketWait_eq]
        cases (socketWait _ t _).1 <;> simp only
        · exact ih _ _ _ hw
        · refine ⟨fun n hn => ?_, Nat.le_of_eq hw.symm⟩
          split at hn <;> cases hn
          exact hw

theorem msgBsend_acc (fuel len : Nat) (s : List Ans) (tr : List Call) :
    (∀ n, (msgBsend fuel len s tr).1 = .rc n → accSends (msgBsend fuel len s tr).2.2 = accSends tr + 1)
    ∧ (∀ e, (msgBsend fuel len s tr).1 = .err e → accSends (msgBsend fuel len s tr).2.2 = accSends tr) := by
  induction fuel generalizing s tr with
  | zero => exact ⟨fun _ hn => Res.noConfusion hn, fun _ _ => rfl⟩
  | succ f ih =>
    unfold msgBsend
    generalize next s = p
    obtain ⟨a, t⟩ := p
    cases a with
    | ok k => exact ⟨fun _ _ => accSends_append tr _, fun _ he => Res.noConfusion he⟩
    | err e =>
      simp only
      have hq : accSends (tr ++ [.tpSend 0 len none]) = accSends tr := accSends_append tr _
      split
      · exact ⟨fun _ hn => Res.noConfusion hn, fun _ _ => hq⟩
      · have hw := (accSends_append _ [.wait Generated.XCM_SO_SENDABLE]).trans hq
        rw [socketWait_eq]
        cases (socketWait _ t _).1
        · rw [← hw]; exact ih _ _
        · exact ⟨fun _ hn => Res.noConfusion hn, fun _ _ => hw⟩

theorem finishAfter_spec (r : Res × List Ans × List Call) :
    accBytes (finishAfter r).2 = accBytes r.2.2 ∧ accSends (finishAfter r).2 = accSends r.2.2
    ∧ (∀ n, (finishAfter r).1 = .rc n → r.1 = .rc n)
    ∧ (∀ e, (finishAfter r).1 = .err e → r.1 = .err e ∨ ((∃ n, r.1 = .rc n) ∧ e ≠ EINTR)) := by
  have hb := socketFinish_quiet accBytes accBytes_append rfl rfl (fuelOf r.2.1) r.2.1 r.2.2
  have hs := socketFinish_quiet accSends accSends_append rfl rfl (fuelOf r.2.1) r.2.1 r.2.2
  fun_cases finishAfter r with
  | case1 => exact ⟨rfl, rfl, fun _ h => h, fun _ => Or.inl⟩
  | case2 n t tr e t2 tr2 hq =>   -- `hq`: the flush returned `.err e`
    rw [hq] at hb hs
    refine ⟨hb, hs, ?_⟩
    split
    · exact ⟨fun _ h => h, fun _ h => Res.noConfusion h⟩
    · next hne => exact ⟨fun _ h => Res.noConfusion h, fun _ h => Or.inr ⟨⟨n, rfl⟩, Res.err.inj h ▸ hne⟩⟩
  | case3 n t tr k t2 tr2 hq =>   -- `hq`: the flush returned `.rc k`
    rw [hq] at hb hs
    exact ⟨hb, hs, fun _ h => h, fun _ h => Res.noConfusion h⟩

theorem send_blocking_msg (len : Nat) (s : List Ans) :
    send { blocking := true, bytestream := false } len s = finishAfter (msgBsend (fuelOf s) len s []) := rfl

theorem send_blocking_bytestream (len : Nat) (s : List Ans) :
    send { blocking := true, bytestream := true } len s = finishAfter (bytestreamBsend (fuelOf s) len 0 s []) := rfl

end XcmModel.Api
