import XcmModel.CtxStore
import XcmModel.Lemmas.List
/-! The context cache of `ctx_store.c`.  The entry-wise fields of `Inv` read everything but `cnt` (`Entry.ident`), so
`bump` and `dropRef` keep them as sublists; the counts are followed separately (`cntOf`). -/
namespace XcmModel.CtxStore

def tickN (e : Env) : Nat → Env
  | 0 => e
  | n + 1 => (tickN e n).tick

/-- the file system as the `i`-th access of a call sees it -/
def seq (e : Env) (i : Nat) : Snap := (tickN e i).cur

def le (a b : Snap) : Prop := ∀ p, a.ver p ≤ b.ver p

/-- K-stat / no ABA: along the accesses of a call a path's version never goes back -/
def Mono (e : Env) : Prop := ∀ i j, i ≤ j → le (seq e i) (seq e j)

theorem tickN_tick (e : Env) (n : Nat) : tickN e.tick n = (tickN e n).tick := by
  induction n with
  | zero => rfl
  | succ k ih => simp only [tickN, ih]

theorem tickN_add (e : Env) (a b : Nat) : tickN (tickN e a) b = tickN e (a + b) := by
  induction b with
  | zero => rfl
  | succ k ih => simp only [tickN, ih]; rfl

theorem load_eq_view (w : World) (s : Snap) (it : Item) : load w s it = (view w s it).map (designated w) := by
  cases it with
  | file p =>
    rw [load, view]
    cases h : w.at p (s.ver p) with
    | reg c => simp only [Option.map_some, designated, h]
    | lnk t => cases ht : w.at t (s.ver t) <;> simp only [Option.map_some, Option.map_none, designated, ht]
    | missing => rfl
  | _ => rfl

theorem view_sandwich {w : World} {s1 s2 s3 : Snap} (h12 : le s1 s2) (h23 : le s2 s3) {it : Item} {v : AView}
    (hv1 : view w s1 it = some v) (hv3 : view w s3 it = some v) : view w s2 it = some v := by
  cases it with
  | file p =>
    have sq : ∀ q, s3.ver q = s1.ver q → s2.ver q = s1.ver q := fun q h => Nat.le_antisymm (h ▸ h23 q) (h12 q)
    rw [view] at hv1 hv3 ⊢
    split at hv1
    · next h1 =>
      cases hv1
      split at hv3
      · simp only [sq p (AView.file.inj (Option.some.inj hv3)).2, h1]
      · split at hv3 <;> cases hv3
      · cases hv3
    · next t h1 =>
      split at hv1
      · next ht1 =>
        cases hv1
        split at hv3
        · cases hv3
        · split at hv3
          · obtain ⟨-, hp, rfl, ht⟩ := AView.link.inj (Option.some.inj hv3)
            simp only [sq p hp, h1, sq _ ht, ht1]
          · cases hv3
        · cases hv3
      · cases hv1
    · cases hv1
  | _ => exact hv1

theorem sandwich_item (w : World) (s1 s2 s3 : Snap) (h12 : le s1 s2) (h23 : le s2 s3) (it : Item) (v : AView) (m : Option Mat)
    (hv1 : view w s1 it = some v) (hl : load w s2 it = some m) (hv3 : view w s3 it = some v) :
    m = designated w v := by
  rw [load_eq_view, view_sandwich h12 h23 hv1 hv3] at hl
  exact (Option.some.inj hl).symm

theorem hashCfg_env {w : World} {cfg : List Item} {e : Env} {k : List AView} {e' : Env}
    (h : hashCfg w e cfg = (some k, e')) : e' = tickN e cfg.length := by
  fun_induction hashCfg w e cfg generalizing k <;> cases h
  case case1 => rfl
  case case3 ih hh => exact (ih hh).trans (tickN_tick _ _)

theorem loadCfg_env {w : World} {cfg : List Item} {e : Env} {ms : List (Option Mat)} {e' : Env}
    (h : loadCfg w e cfg = (some ms, e')) : e' = tickN e cfg.length := by
  fun_induction loadCfg w e cfg generalizing ms <;> cases h
  case case1 => rfl
  case case3 ih hh => exact (ih hh).trans (tickN_tick _ _)

/-- a round of the loop in `ctx_store_get_ctx` whose two hashes agree loaded what the hashed identity designates -/
theorem passes (w : World) (cfg : List Item) (e : Env) (hm : Mono e) :
    ∀ (a b c : Nat) (k : List AView) (ms : List (Option Mat)) (ea eb ec : Env), a ≤ b → b ≤ c →
      hashCfg w (tickN e a) cfg = (some k, ea) → loadCfg w (tickN e b) cfg = (some ms, eb) →
      hashCfg w (tickN e c) cfg = (some k, ec) → ms = k.map (designated w) := by
  induction cfg with
  | nil =>
    intro a b c k ms ea eb ec _ _ h1 h2 _
    cases h1; cases h2; rfl
  | cons it t ih =>
    intro a b c k ms ea eb ec hab hbc h1 h2 h3
    unfold hashCfg at h1 h3
    unfold loadCfg at h2
    -- each pass got through `it` and through `t`, and both hashes gave `v :: vs`
    split at h1
    · cases h1
    rename_i v hv1
    split at h1 <;> cases h1
    rename_i vs hh1
    split at h3
    · cases h3
    rename_i v3 hv3
    split at h3 <;> cases h3
    rename_i vs3 hh3
    split at h2
    · cases h2
    rename_i m hl2
    split at h2 <;> cases h2
    rename_i ms' hh2
    have hd := sandwich_item w (seq e a) (seq e b) (seq e c) (hm a b hab) (hm b c hbc) it v m hv1 hl2 hv3
    have ht := ih (a + 1) (b + 1) (c + 1) vs ms' _ _ _ (Nat.succ_le_succ hab) (Nat.succ_le_succ hbc) hh1 hh2 hh3
    rw [hd, ht]; rfl

/-- The exits of `get`.  From `tickN e n`: a retry is the same statement some accesses later.  `Mono e` only where it is
used: `get_cnt` has none. -/
theorem get_outcome (w : World) (ok : List (Option Mat) → Bool) (cfg : List Item) (st : Store) (e : Env) :
    ∀ (fuel n : Nat) (st' : Store) (r : Res) (e' : Env), get w ok fuel st cfg (tickN e n) = (st', r, e') →
      (st' = st ∧ ∀ id cr, r ≠ .ctx id cr) ∨
      ∃ k, (∃ a e1, hashCfg w (tickN e a) cfg = (some k, e1)) ∧
        ((∃ en, findKey k st.entries = some en ∧ st' = { st with entries := bump k st.entries } ∧ r = .ctx en.ctx false) ∨
         (∃ ms, findKey k st.entries = none ∧ ok ms = true ∧ (Mono e → ms = k.map (designated w)) ∧
           st' = { st with entries := { key := k, ctx := st.next, cnt := 1, mats := ms } :: st.entries, next := st.next + 1 } ∧
           r = .ctx st.next true)) := by
  intro fuel n
  generalize hE : tickN e n = e0
  fun_induction get w ok fuel st cfg e0 generalizing n
  case case3 k e1 h1 en hf =>
    -- cached
    rintro _ _ _ ⟨⟩
    exact .inr ⟨k, ⟨n, e1, hE ▸ h1⟩, .inl ⟨en, hf, rfl, rfl⟩⟩
  case case6 cfg _ _ ms _ h2 k _ h3 hok h1 hf =>
    -- loaded (`h2`) between two agreeing hashes (`h1`, `h3`), and accepted
    rintro _ _ _ ⟨⟩
    subst hE
    cases hashCfg_env h1
    cases loadCfg_env h2
    simp only [tickN_add] at h2 h3
    exact .inr ⟨k, ⟨n, _, h1⟩, .inr ⟨ms, hf, hok, fun hm =>
      passes w cfg e hm n _ _ k ms _ _ _ (Nat.le_add_right _ _) (Nat.le_add_right _ _) h1 h2 h3, rfl, rfl⟩⟩
  case case8 h1 _ _ _ h2 _ _ h3 _ ih =>
    -- the hash changed: the retry starts three passes later
    subst hE
    cases hashCfg_env h1
    cases loadCfg_env h2
    cases hashCfg_env h3
    exact ih _ (by rw [tickN_add, tickN_add, tickN_add])
  all_goals
    -- the other exits: store untouched, no context
    rintro _ _ _ ⟨⟩
    exact .inl ⟨rfl, fun _ _ => Res.noConfusion⟩

/-- An entry holds what its key designates (`mats`) and is in use (`cntPos`: `ctx_store_put` removes it with its last
reference); ids are handed out in order (`ctxLt`, `freedLt`), so a freed one does not come back (`freedDead`). -/
structure Inv (w : World) (st : Store) : Prop where
  mats : ∀ e ∈ st.entries, e.mats = e.key.map (designated w)
  keysNodup : (st.entries.map (·.key)).Nodup
  ctxNodup : (st.entries.map (·.ctx)).Nodup
  ctxLt : ∀ e ∈ st.entries, e.ctx < st.next
  cntPos : ∀ e ∈ st.entries, 0 < e.cnt
  freedLt : ∀ c ∈ st.freed, c < st.next
  freedDead : ∀ c ∈ st.freed, ∀ e ∈ st.entries, e.ctx ≠ c
  noAbort : st.aborted = false

theorem inv_init (w : World) : Inv w {} := by
  constructor <;> simp

theorem findKey_eq_find? (k : List AView) (es : List Entry) : findKey k es = es.find? (·.key = k) := by
  fun_induction findKey k es
  case case1 => rfl
  case case2 h => rw [List.find?_cons, decide_eq_true h]
  case case3 h ih => rw [List.find?_cons, decide_eq_false h, ih]

theorem findCtx_eq_find? (c : Nat) (es : List Entry) : findCtx c es = es.find? (·.ctx = c) := by
  fun_induction findCtx c es
  case case1 => rfl
  case case2 h => rw [List.find?_cons, decide_eq_true h]
  case case3 h ih => rw [List.find?_cons, decide_eq_false h, ih]

theorem findKey_some {k : List AView} {es : List Entry} {e : Entry} (h : findKey k es = some e) : e ∈ es ∧ e.key = k := by
  rw [findKey_eq_find?] at h
  exact ⟨List.mem_of_find?_eq_some h, of_decide_eq_true (List.find?_some h :)⟩

theorem findKey_none {k : List AView} {es : List Entry} (h : findKey k es = none) : k ∉ es.map (·.key) := by
  rw [findKey_eq_find?] at h
  exact fun hk => by
    obtain ⟨x, hx, hxk⟩ := List.mem_map.mp hk
    exact List.find?_eq_none.mp h x hx (decide_eq_true hxk)

theorem findCtx_some {c : Nat} {es : List Entry} {e : Entry} (h : findCtx c es = some e) : e ∈ es ∧ e.ctx = c := by
  rw [findCtx_eq_find?] at h
  exact ⟨List.mem_of_find?_eq_some h, of_decide_eq_true (List.find?_some h :)⟩

def Entry.ident (e : Entry) : Entry := { e with cnt := 0 }

theorem Inv.of_sublist {w : World} {st : Store} (hi : Inv w st) {es : List Entry}
    (hs : (es.map Entry.ident).Sublist (st.entries.map Entry.ident)) (hp : ∀ x ∈ es, 0 < x.cnt) :
    Inv w { st with entries := es } := by
  have lift : ∀ P : _ → Prop, (∀ e ∈ st.entries, P e.ident) → ∀ x ∈ es, P x.ident := fun P h x hx => by
    obtain ⟨e, he, heq⟩ := List.mem_map.mp (hs.subset (List.mem_map_of_mem hx))
    exact heq ▸ h e he
  have hk := hs.map (·.key)
  have hc := hs.map (·.ctx)
  rw [List.map_map, List.map_map] at hk hc
  exact {
    mats := lift (fun i => i.mats = i.key.map (designated w)) hi.mats
    keysNodup := hi.keysNodup.sublist hk
    ctxNodup := hi.ctxNodup.sublist hc
    ctxLt := lift (fun i => i.ctx < st.next) hi.ctxLt
    cntPos := hp
    freedLt := hi.freedLt
    freedDead := fun c hc => lift (fun i => i.ctx ≠ c) (hi.freedDead c hc)
    noAbort := hi.noAbort }

/-- `use_cnt` of the entry that holds context `c`, 0 if none does -/
def cntOf (es : List Entry) (c : Nat) : Nat := match findCtx c es with | some e => e.cnt | none => 0

theorem cntOf_cons (a : Entry) (t : List Entry) (c : Nat) :
    cntOf (a :: t) c = if a.ctx = c then a.cnt else cntOf t c := by
  simp only [cntOf, findCtx]
  by_cases h : a.ctx = c <;> simp [h]

theorem cntOf_of_mem {es : List Entry} (nd : (es.map (·.ctx)).Nodup) {e : Entry} (he : e ∈ es) : cntOf es e.ctx = e.cnt := by
  rw [cntOf, findCtx_eq_find?, find?_of_nodup_map (·.ctx) nd he (decide_eq_true rfl) fun _ => of_decide_eq_true]

theorem exists_of_cntOf_pos {es : List Entry} {c : Nat} (h : 0 < cntOf es c) : ∃ e ∈ es, e.ctx = c := by
  unfold cntOf at h
  split at h
  · next e he => exact ⟨e, findCtx_some he⟩
  · cases h

theorem cntOf_eq_zero {es : List Entry} {c : Nat} (h : ∀ x ∈ es, x.ctx ≠ c) : cntOf es c = 0 :=
  Nat.eq_zero_of_not_pos fun hp => by
    obtain ⟨x, hx, hxc⟩ := exists_of_cntOf_pos hp
    exact h x hx hxc

theorem bump_ident (k : List AView) (es : List Entry) : (bump k es).map Entry.ident = es.map Entry.ident := by
  -- 1 nil, 2 hit, 3 miss
  fun_induction bump k es
  case case3 ih => exact congrArg (_ :: ·) ih
  all_goals rfl

theorem bump_pos {k : List AView} {es : List Entry} (hp : ∀ e ∈ es, 0 < e.cnt) : ∀ x ∈ bump k es, 0 < x.cnt := by
  fun_induction bump k es
  case case1 => exact hp
  case case2 => exact List.forall_mem_cons.mpr ⟨Nat.succ_pos _, (List.forall_mem_cons.mp hp).2⟩
  case case3 ih => exact List.forall_mem_cons.mpr ⟨(List.forall_mem_cons.mp hp).1, ih (List.forall_mem_cons.mp hp).2⟩

theorem bump_cnt {k : List AView} {es : List Entry} {en : Entry} (ndc : (es.map (·.ctx)).Nodup)
    (hf : findKey k es = some en) (c : Nat) :
    cntOf (bump k es) c = cntOf es c + (if en.ctx = c then 1 else 0) := by
  fun_induction bump k es
  case case1 => cases hf
  case case2 hk =>
    rw [findKey, if_pos hk] at hf
    cases hf
    rw [cntOf_cons, cntOf_cons]
    split <;> rfl
  case case3 a t hk ih =>
    obtain ⟨ha, nd⟩ := List.nodup_cons.mp ndc
    rw [findKey, if_neg hk] at hf
    rw [cntOf_cons, cntOf_cons]
    split
    · next hc => rw [if_neg fun h => ha (List.mem_map.mpr ⟨en, (findKey_some hf).1, h.trans hc.symm⟩)]; rfl
    · exact ih nd hf

theorem Inv.insert {w : World} {st : Store} (hi : Inv w st) {k : List AView} (hk : k ∉ st.entries.map (·.key)) :
    Inv w { st with entries := { key := k, ctx := st.next, cnt := 1, mats := k.map (designated w) } :: st.entries,
                    next := st.next + 1 } where
  mats := List.forall_mem_cons.mpr ⟨rfl, hi.mats⟩
  keysNodup := List.nodup_cons.mpr ⟨hk, hi.keysNodup⟩
  ctxNodup := List.nodup_cons.mpr
    ⟨fun h => by obtain ⟨x, hx, hxc⟩ := List.mem_map.mp h; exact absurd hxc (Nat.ne_of_lt (hi.ctxLt x hx)), hi.ctxNodup⟩
  ctxLt := List.forall_mem_cons.mpr ⟨Nat.lt_succ_self _, fun x hx => Nat.lt_succ_of_lt (hi.ctxLt x hx)⟩
  cntPos := List.forall_mem_cons.mpr ⟨Nat.one_pos, hi.cntPos⟩
  freedLt c hc := Nat.lt_succ_of_lt (hi.freedLt c hc)
  freedDead c hc := List.forall_mem_cons.mpr ⟨(Nat.ne_of_lt (hi.freedLt c hc)).symm, hi.freedDead c hc⟩
  noAbort := hi.noAbort

/-- `ctx_store_get_ctx` keeps the cache consistent; its context is keyed by the configured items' identity as observed in
this call and holds what that designates -/
theorem get_spec (w : World) (ok : List (Option Mat) → Bool) (cfg : List Item) :
    ∀ (fuel : Nat) (st : Store) (e : Env) (n : Nat), Inv w st → Mono e →
      let r := get w ok fuel st cfg (tickN e n)
      Inv w r.1 ∧
      (∀ id cr, r.2.1 = .ctx id cr →
        ∃ en ∈ r.1.entries, en.ctx = id ∧ en.mats = en.key.map (designated w) ∧
          (∃ m e', hashCfg w (tickN e m) cfg = (some en.key, e')) ∧
          (cr = true → ok en.mats = true ∧ id = st.next ∧ ∀ x ∈ st.entries, x.ctx ≠ id) ∧
          (cr = false → ∃ old ∈ st.entries, old.ctx = id ∧ old.key = en.key)) := by
  intro fuel st e n hi hm
  rcases hg : get w ok fuel st cfg (tickN e n) with ⟨st', r, e'⟩
  rcases get_outcome w ok cfg st e fuel n st' r e' hg with ⟨rfl, hr⟩ | ⟨k, hk, ⟨en, hf, rfl, rfl⟩ | ⟨ms, hf, hok, hms, rfl, rfl⟩⟩
  · exact ⟨hi, fun id cr h => absurd h (hr id cr)⟩
  · obtain ⟨hmem, rfl⟩ := findKey_some hf
    have hb := bump_ident en.key st.entries
    refine ⟨hi.of_sublist (hb ▸ .refl _) (bump_pos hi.cntPos), fun id cr h => ?_⟩
    cases h
    obtain ⟨x, hx, hxe⟩ : ∃ x ∈ bump en.key st.entries, x.ident = en.ident :=
      List.mem_map.mp (hb ▸ List.mem_map_of_mem hmem)
    obtain ⟨hkey, hctx, -, hmats⟩ := Entry.mk.inj hxe
    exact ⟨x, hx, hctx, hmats.trans (hkey ▸ hi.mats en hmem), hkey ▸ hk, nofun, fun _ => ⟨en, hmem, rfl, hkey.symm⟩⟩
  · obtain rfl := hms hm
    refine ⟨hi.insert (findKey_none hf), fun id cr h => ?_⟩
    cases h
    exact ⟨_, List.mem_cons_self, rfl, rfl, hk, fun _ => ⟨hok, rfl, fun x hx => Nat.ne_of_lt (hi.ctxLt x hx)⟩, nofun⟩

def inc (r : Res) (c : Nat) : Nat :=
  match r with
  | .ctx id _ => if id = c then 1 else 0
  | _ => 0

/-- `inc`: the one reference a get adds, to the context it returns -/
theorem get_cnt (w : World) (ok : List (Option Mat) → Bool) (cfg : List Item) :
    ∀ (fuel : Nat) (st : Store) (e : Env), Inv w st →
      ∀ c, let r := get w ok fuel st cfg e
        cntOf r.1.entries c = cntOf st.entries c + inc r.2.1 c := by
  intro fuel st e hi c
  rcases hg : get w ok fuel st cfg e with ⟨st', r, e'⟩
  rcases get_outcome w ok cfg st e fuel 0 st' r e' hg with ⟨rfl, hr⟩ | ⟨k, _, ⟨en, hf, rfl, rfl⟩ | ⟨ms, _, _, _, rfl, rfl⟩⟩ <;>
    dsimp only
  · cases r with
    | ctx id cr => exact absurd rfl (hr id cr)
    | _ => rfl
  · simp only [inc, bump_cnt hi.ctxNodup hf c]
  · simp only [inc, cntOf_cons]
    split
    · next h =>
      exact h ▸ congrArg (· + 1) (cntOf_eq_zero fun x hx => Nat.ne_of_lt (hi.ctxLt x hx)).symm
    · rfl

theorem dropRef_ident (c : Nat) (es : List Entry) : ((dropRef c es).map Entry.ident).Sublist (es.map Entry.ident) := by
  -- 1 nil, 2 hit: last reference, removed, 3 hit: decremented, 4 miss
  fun_induction dropRef c es
  case case1 => exact .slnil
  case case2 => exact .cons _ (.refl _)
  case case3 => exact .refl _
  case case4 ih => exact .cons_cons _ ih

theorem dropRef_pos {c : Nat} {es : List Entry} (hp : ∀ e ∈ es, 0 < e.cnt) : ∀ x ∈ dropRef c es, 0 < x.cnt := by
  fun_induction dropRef c es
  case case1 => exact hp
  case case2 => exact (List.forall_mem_cons.mp hp).2
  case case3 h => exact List.forall_mem_cons.mpr ⟨Nat.sub_pos_of_lt (Nat.lt_of_not_le h), (List.forall_mem_cons.mp hp).2⟩
  case case4 ih => exact List.forall_mem_cons.mpr ⟨(List.forall_mem_cons.mp hp).1, ih (List.forall_mem_cons.mp hp).2⟩

theorem dropRef_cnt {c : Nat} {es : List Entry} (ndc : (es.map (·.ctx)).Nodup) (c' : Nat) :
    cntOf (dropRef c es) c' = cntOf es c' - (if c = c' then 1 else 0) := by
  fun_induction dropRef c es
  case case1 => exact (Nat.zero_sub _).symm
  case case2 a t hc h1 =>
    subst hc
    rw [cntOf_cons]
    split
    · next hcc =>
      subst hcc
      rw [Nat.sub_eq_zero_of_le h1]
      exact cntOf_eq_zero fun x hx hxc => (List.nodup_cons.mp ndc).1 (List.mem_map.mpr ⟨x, hx, hxc⟩)
    · rfl
  case case3 a t hc h1 =>
    subst hc
    rw [cntOf_cons, cntOf_cons]
    split <;> rfl
  case case4 a t hc ih =>
    rw [cntOf_cons, cntOf_cons]
    split
    · next hcc => rw [if_neg fun h => hc (hcc.trans h.symm)]; rfl
    · exact ih (List.nodup_cons.mp ndc).2

/-- `ctx_store_put` of a held context keeps the cache consistent; the context is released with its last reference -/
theorem put_spec (w : World) (st : Store) (c : Nat) (hi : Inv w st) (e : Entry) (he : findCtx c st.entries = some e) :
    Inv w (put st c) ∧
    (e.cnt ≤ 1 → (put st c).freed = c :: st.freed ∧ ∀ x ∈ (put st c).entries, x.ctx ≠ c) ∧
    (1 < e.cnt → (put st c).freed = st.freed ∧ ∃ x ∈ (put st c).entries, x.ctx = c ∧ x.cnt = e.cnt - 1) := by
  have ⟨hmem, hctx⟩ := findCtx_some he
  have hd := hi.of_sublist (dropRef_ident c st.entries) (dropRef_pos hi.cntPos)
  -- what is left under `c` is read off its count
  have hcnt : cntOf (dropRef c st.entries) c = e.cnt - 1 := by
    rw [dropRef_cnt hi.ctxNodup, if_pos rfl]; simp only [cntOf, he]
  have at_c : ∀ x ∈ dropRef c st.entries, x.ctx = c → x.cnt = e.cnt - 1 := fun x hx hxc => by
    have := cntOf_of_mem hd.ctxNodup hx; rw [hxc] at this; exact this.symm.trans hcnt
  simp only [put, he]
  by_cases h1 : e.cnt ≤ 1
  · have gone : ∀ x ∈ dropRef c st.entries, x.ctx ≠ c := fun x hx hxc => by
      have := hd.cntPos x hx
      rw [at_c x hx hxc, Nat.sub_eq_zero_of_le h1] at this
      exact Nat.lt_irrefl 0 this
    simp only [if_pos h1]
    exact ⟨{ hd with
        freedLt := List.forall_mem_cons.mpr ⟨hctx ▸ hi.ctxLt e hmem, hi.freedLt⟩
        freedDead := List.forall_mem_cons.mpr ⟨gone, hd.freedDead⟩ },
      fun _ => ⟨trivial, gone⟩, fun h => absurd h1 (Nat.not_le_of_lt h)⟩
  · obtain ⟨x, hx, hxc⟩ := exists_of_cntOf_pos (hcnt ▸ Nat.sub_pos_of_lt (Nat.lt_of_not_le h1))
    simp only [if_neg h1]
    exact ⟨hd, fun h => absurd h h1, fun _ => ⟨trivial, x, hx, hxc, at_c x hx hxc⟩⟩

end XcmModel.CtxStore
