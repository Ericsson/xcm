import XcmModel.Lemmas.CtxKey
import XcmModel.Lemmas.CtxStore
/-!
# C18 — each TLS connection uses the credentials designated at that moment (ctx_store.c)

Trusted: K-sha256 (no SHA-256 collision on the hashed byte sequences; with `C18_key_unambiguous` this lets the model key
the cache by the item views) and K-stat (`Mono`: a rewritten, renamed or re-linked file has a new stat identity, none is
reused).
-/
namespace XcmModel.C18
open XcmModel XcmModel.CtxKey XcmModel.CtxStore

/-- what `get_credentials_hash` feeds to SHA-256 (`CtxKey.enc`) determines the configuration, so configurations that
differ in an item share no entry -/
theorem C18_key_unambiguous (c c' : List View) (hl : c.length = c'.length) (h : ∀ v ∈ c, v.WF) (h' : ∀ v ∈ c', v.WF)
    (he : encCfg c = encCfg c') : c = c' := by
  have a := decCfg_encCfg c h []
  rw [he, hl] at a
  exact (Prod.mk.inj (Option.some.inj (a.symm.trans (decCfg_encCfg c' h' [])))).1

/-- F-18a: plain concatenation (`encCfgOld`) maps trusted certificates "AB" with CRL "R" and trusted certificate "A" with
CRL "BR" to the same bytes -/
theorem F18a_old_key_ambiguous :
    ∃ c c' : List View, c.length = c'.length ∧ (∀ v ∈ c, v.WF) ∧ (∀ v ∈ c', v.WF) ∧ c ≠ c' ∧ encCfgOld c = encCfgOld c' :=
  ⟨[.value [67], .value [75], .value [65, 66], .value [82]], [.value [67], .value [75], .value [65], .value [66, 82]],
    -- `↓`: the lists are taken apart item by item before `∈` is unfolded, much faster to check
    rfl, by simp [↓List.forall_mem_cons, View.WF, NoNul], by simp [↓List.forall_mem_cons, View.WF, NoNul], by decide, by decide⟩

/-- whatever changes on disk during the call: the context returned is cached under the identity observed for the
configured items in this call and holds exactly what that designates; a new one was accepted by OpenSSL -/
theorem C18_context_holds_designated_material (w : World) (ok : List (Option Mat) → Bool) (cfg : List Item)
    (fuel : Nat) (st : Store) (e : Env) (hi : Inv w st) (hm : Mono e) (id : Nat) (cr : Bool)
    (hr : (get w ok fuel st cfg e).2.1 = .ctx id cr) :
    ∃ en ∈ (get w ok fuel st cfg e).1.entries, en.ctx = id ∧ en.mats = en.key.map (designated w) ∧
      (∃ m e', hashCfg w (tickN e m) cfg = (some en.key, e')) ∧ (cr = true → ok en.mats = true) := by
  obtain ⟨en, hen, h1, h2, h3, h4, _⟩ := (get_spec w ok cfg fuel st e 0 hi hm).2 id cr hr
  exact ⟨en, hen, h1, h2, h3, fun x => (h4 x).1⟩

/-- `ctx_store_get_ctx` keeps the cache consistent -/
theorem C18_get_keeps_invariant (w : World) (ok : List (Option Mat) → Bool) (cfg : List Item)
    (fuel : Nat) (st : Store) (e : Env) (hi : Inv w st) (hm : Mono e) : Inv w (get w ok fuel st cfg e).1 :=
  (get_spec w ok cfg fuel st e 0 hi hm).1

/-- one context, one identity -/
theorem C18_no_mixing (w : World) (st : Store) (hi : Inv w st) (a b : Entry) (ha : a ∈ st.entries) (hb : b ∈ st.entries) :
    (a.ctx = b.ctx → a = b) ∧ (a.key = b.key → a = b) :=
  ⟨eq_of_nodup_map (·.ctx) hi.ctxNodup ha hb, eq_of_nodup_map (·.key) hi.keysNodup ha hb⟩

inductive Op where
  | get (cfg : List Item) (e : Env) (fuel : Nat)
  | put (c : Nat)

structure Sys where
  st : Store := {}
  held : List Nat := []        -- one element per socket that holds a context

def step (w : World) (ok : List (Option Mat) → Bool) (s : Sys) : Op → Sys
  | .get cfg e fuel =>
    let r := get w ok fuel s.st cfg e
    match r.2.1 with
    | .ctx id _ => { st := r.1, held := id :: s.held }
    | _ => { st := r.1, held := s.held }
  | .put c => if c ∈ s.held then { st := put s.st c, held := s.held.erase c } else s   -- a socket only puts what it holds

def OpOk : Op → Prop
  | .get _ e _ => Mono e
  | .put _ => True

/-- `Inv`, and `use_cnt` of a context is the number of sockets that hold it -/
structure SysInv (w : World) (s : Sys) : Prop where
  inv : Inv w s.st
  cnt : ∀ c, cntOf s.st.entries c = s.held.count c

theorem step_inv (w : World) (ok : List (Option Mat) → Bool) (s : Sys) (op : Op) (h : SysInv w s) (ho : OpOk op) :
    SysInv w (step w ok s op) := by
  cases op with
  | get cfg e fuel =>
    have hi := C18_get_keeps_invariant w ok cfg fuel s.st e h.inv ho
    have hc := get_cnt w ok cfg fuel s.st e h.inv
    simp only [step]
    generalize get w ok fuel s.st cfg e = r at hi hc
    obtain ⟨st', r, e'⟩ := r
    cases r with
    -- one more holder of `id`
    | ctx id cr => exact ⟨hi, fun c => (hc c).trans (by simp [inc, h.cnt c, List.count_cons])⟩
    | _ => exact ⟨hi, fun c => (hc c).trans (h.cnt c)⟩
  | put c =>
    simp only [step]
    by_cases hm : c ∈ s.held
    · rw [if_pos hm]
      -- the entry exists: its count is positive
      have hpos : 0 < cntOf s.st.entries c := by rw [h.cnt c]; exact List.count_pos_iff.mpr hm
      cases hf : findCtx c s.st.entries with
      | none => simp [cntOf, hf] at hpos
      | some en =>
        refine ⟨(put_spec w s.st c h.inv en hf).1, fun c' => ?_⟩
        have : (put s.st c).entries = dropRef c s.st.entries := by simp [put, hf]
        -- one holder of `c` fewer
        rw [this, dropRef_cnt h.inv.ctxNodup c', h.cnt c', List.count_erase]
        simp
    · rw [if_neg hm]; exact h

def run (w : World) (ok : List (Option Mat) → Bool) (ops : List Op) : Sys := ops.foldl (step w ok) {}

theorem run_inv (w : World) (ok : List (Option Mat) → Bool) (ops : List Op) (ho : ∀ op ∈ ops, OpOk op) :
    SysInv w (run w ok ops) :=
  List.foldlRecOn ops (step w ok) ⟨inv_init w, fun _ => rfl⟩ fun s h o hm => step_inv w ok s o h (ho o hm)

/-- in every reachable state: a context is cached iff some socket holds it, its count the number of holders; a released
one is held by nobody; the assertion in `ctx_store_put` never fired (`step`: a socket puts only what it holds) -/
theorem C18_released_with_last_user (w : World) (ok : List (Option Mat) → Bool) (ops : List Op) (ho : ∀ op ∈ ops, OpOk op) :
    let s := run w ok ops
    (∀ c, (∃ e ∈ s.st.entries, e.ctx = c) ↔ c ∈ s.held) ∧
    (∀ e ∈ s.st.entries, e.cnt = s.held.count e.ctx) ∧
    (∀ c ∈ s.st.freed, c ∉ s.held) ∧ s.st.aborted = false := by
  intro s
  have h := run_inv w ok ops ho
  have cnt : ∀ e ∈ s.st.entries, e.cnt = s.held.count e.ctx := fun e he => by
    rw [← h.cnt, cntOf_of_mem h.inv.ctxNodup he]
  have held : ∀ c, c ∈ s.held → ∃ e ∈ s.st.entries, e.ctx = c := fun c hc =>
    exists_of_cntOf_pos (by rw [h.cnt c]; exact List.count_pos_iff.mpr hc)
  refine ⟨fun c => ⟨?_, held c⟩, cnt, ?_, h.inv.noAbort⟩
  · rintro ⟨e, he, rfl⟩
    exact List.count_pos_iff.mp (cnt e he ▸ h.inv.cntPos e he)
  · intro c hc hh
    obtain ⟨e, he, hec⟩ := held c hh
    exact h.inv.freedDead c hc e he hec

/-- `ctx_store_put` by the last holder frees the context and removes its entry -/
theorem C18_last_put_releases (w : World) (st : Store) (c : Nat) (hi : Inv w st) (e : Entry)
    (he : findCtx c st.entries = some e) (h1 : e.cnt = 1) :
    (put st c).freed = c :: st.freed ∧ ∀ x ∈ (put st c).entries, x.ctx ≠ c :=
  (put_spec w st c hi e he).2.1 (Nat.le_of_eq h1)

/-- non-vacuity: two sockets share a context; a replaced file gives the next a second one while they keep theirs -/
example :
    let w : World := [(("tc", 1), .reg "rootA"), (("tc", 2), .reg "rootB")]
    let e1 : Env := { cur := [("tc", 1)], future := [] }
    let e2 : Env := { cur := [("tc", 2)], future := [] }
    let cfg := [Item.value "a1", .value "a1-key", .file "tc", .none]
    let s := run w (fun _ => true) [.get cfg e1 3, .get cfg e1 3, .get cfg e2 3]
    s.held = [1, 0, 0] ∧ s.st.entries.map (fun e => (e.ctx, e.cnt, e.mats)) =
      [(1, 1, [some "a1", some "a1-key", some "rootB", none]), (0, 2, [some "a1", some "a1-key", some "rootA", none])] :=
  ⟨rfl, rfl⟩

end XcmModel.C18
