import XcmModel.DnsQuery
import XcmModel.Props.Timer
/-!
  The asynchronous resolver front end (xcm_dns_cares.c) on its timer manager, for every history of process / result
  calls and every behaviour of c-ares (callback or not, any descriptor set, any timeout).  While the query is in
  progress its overall deadline (dns.timeout) is the live timer 0 (`QInv`), so what `TimerProps` says of live timers
  holds of it.  `dns_inv_run` and `process_keeps_deadline` stand for themselves (C13).
-/
namespace XcmModel.DnsProps
open XcmModel.TimerMgr XcmModel.DnsQuery XcmModel.TimerProps

/-- c-ares never reports success without an address (`ut_assert(len >= 1)` relies on it) -/
def CbOk : Cb → Prop
  | .success n => 1 ≤ n
  | _ => True

/-- the part of the invariant that holds between the steps of one call as well; its five parts go by `hi hn ho ha hs` -/
def QCore (s : DnsQuery.State) : Prop :=
  TimerProps.Inv s.tm ∧ 1 ≤ s.tm.nextId ∧
  (s.st = .inProgress → s.overallTimer = 0 ∧ ∃ t, find s.tm 0 = some t) ∧
  (s.aresTimer = -1 ∨ 1 ≤ s.aresTimer) ∧
  (s.st = .successful → 1 ≤ s.ipsLen ∧ s.ipsLen ≤ MAX_RESULT)

/-- the invariant between calls: a completed query has no channel descriptor registered -/
def QInv (s : DnsQuery.State) : Prop := QCore s ∧ (s.st ≠ .inProgress → s.regs = [])

theorem QInv.deadline {s : DnsQuery.State} (h : QInv s) (hst : s.st = .inProgress) : ∃ t, find s.tm 0 = some t :=
  (h.1.2.2.1 hst).2

theorem applyCb_tm (s : DnsQuery.State) (cb : Cb) : (applyCb s cb).tm = s.tm ∧ (applyCb s cb).aresTimer = s.aresTimer ∧
    (applyCb s cb).overallTimer = s.overallTimer := by
  cases cb <;> exact ⟨rfl, rfl, rfl⟩

theorem applyCb_core (s : DnsQuery.State) (cb : Cb) (hcb : CbOk cb) (h : QCore s) : QCore (applyCb s cb) := by
  obtain ⟨hi, hn, ho, ha, hs⟩ := h
  cases cb with
  | none | cancelled => exact ⟨hi, hn, ho, ha, hs⟩
  | fail => exact ⟨hi, hn, nofun, ha, nofun⟩
  | success n => exact ⟨hi, hn, nofun, ha, fun _ => ⟨Nat.le_min.mpr ⟨hcb, by decide⟩, Nat.min_le_right _ _⟩⟩

theorem aresTimer_ne_zero {a : Int} (h : a = -1 ∨ 1 ≤ a) : ¬ 0 = a := by rintro rfl; revert h; decide

/-- `update_xpoll` keeps the status and timer 0 (the overall deadline); c-ares' timer is at most replaced by a fresh one
with an id ≥ 1, for a completed query by one due at `now`: the wake-up that brings the owner back for the result.
Of `QCore` it asks no more than `C13_dns_deadline_value` can give. -/
theorem updateXpoll_spec (s : DnsQuery.State) (now : Nat) (socks : List (Bool × Bool)) (to : Option Nat)
    (hi : TimerProps.Inv s.tm) (hn : 1 ≤ s.tm.nextId) (ha : s.aresTimer = -1 ∨ 1 ≤ s.aresTimer) :
    let s' := updateXpoll s now socks to
    (QCore s → QInv s') ∧ s'.st = s.st ∧ find s'.tm 0 = find s.tm 0 ∧
    (s.st ≠ .inProgress → ∃ t ∈ s'.tm.timers, t.expiry = now) := by
  have key : ∀ (rel : Int) r, reschedule s.tm now rel s.aresTimer = r →
      TimerProps.Inv r.1 ∧ 1 ≤ r.1.nextId ∧ find r.1 0 = find s.tm 0 ∧ 1 ≤ r.2 ∧
      find r.1 r.2 = some { id := s.tm.nextId, expiry := now + rel.toNat } := by
    rintro rel _ rfl
    refine ⟨reschedule_inv _ _ _ _ hi, ?_, ?_, ?_, ?_⟩
    · rw [reschedule_eq, schedule_nextId]; exact Nat.le_add_left 1 _
    · -- timer 0 is neither the new timer (`hn`) nor c-ares' old one (`ha`)
      rw [find_reschedule s.tm hi, if_neg (Int.natCast_ne_zero.mpr (Nat.ne_of_gt hn)), if_neg (aresTimer_ne_zero ha)]
    · rw [reschedule_eq]; exact Int.ofNat_le.mpr hn
    · rw [find_reschedule s.tm hi, reschedule_eq, if_pos rfl]
  -- in progress: 1 `ares_timeout` names a delay `t`, 2 it names none; 3 completed
  fun_cases updateXpoll s now socks to with
  | case1 hst _ t _ _ he =>
    obtain ⟨k1, k2, k3, k4, _⟩ := key t _ he
    refine ⟨fun h => ?_, rfl, k3, fun h => absurd hst h⟩
    obtain ⟨_, _, ho, _, hs⟩ := h
    exact ⟨⟨k1, k2, by rw [k3]; exact ho, Or.inr k4, hs⟩, fun h => absurd hst h⟩
  | case2 hst => exact ⟨fun h => ⟨h, fun h => absurd hst h⟩, rfl, rfl, fun h => absurd hst h⟩
  | case3 _ hst _ _ he =>
    obtain ⟨k1, k2, k3, k4, k5⟩ := key 0 _ he
    refine ⟨fun h => ?_, rfl, k3, fun _ => ⟨_, List.mem_of_find?_eq_some k5, rfl⟩⟩
    obtain ⟨_, _, _, _, hs⟩ := h
    exact ⟨⟨k1, k2, fun h => absurd h hst, Or.inr k4, hs⟩, fun _ => rfl⟩

theorem resolve_inv (now : Nat) (timeout : Int) (cb : Cb) (socks : List (Bool × Bool)) (to : Option Nat) (hcb : CbOk cb) :
    QInv (resolve now timeout cb socks to).1 := by
  have h0 : QCore { tm := (schedule {} now (if timeout ≤ 0 then DEFAULT_OVERALL_TIMEOUT else timeout.toNat : Nat)).1, overallTimer := 0 } :=
    ⟨schedule_inv _ _ _ inv_init, Nat.le_add_left 1 _, fun _ => ⟨rfl, _, (find_schedule ..).trans (if_pos rfl)⟩, Or.inl rfl, fun h => nomatch h⟩
  have h := applyCb_core _ cb hcb h0
  show QInv (updateXpoll _ _ _ _)
  exact (updateXpoll_spec _ now socks to (hi := h.1) (hn := h.2.1) (ha := h.2.2.2.1)).1 h

theorem mid_core (s : DnsQuery.State) (cb : Cb) (h : QCore s) (hst : s.st = .inProgress) (hcb : CbOk cb) :
    QCore (mid s cb) ∧ (mid s cb).overallTimer = 0 ∧ find (mid s cb).tm 0 = find s.tm 0 := by
  obtain ⟨hi, hn, ho, ha, hs⟩ := h
  obtain ⟨e0, t0, ht0⟩ := ho hst
  have hf0 : find (cancel s.tm s.aresTimer).1 0 = find s.tm 0 := by rw [find_cancel _ hi, if_neg (aresTimer_ne_zero ha)]
  unfold mid
  refine ⟨applyCb_core _ cb hcb ⟨cancel_inv _ _ hi, by simpa using hn, fun _ => ⟨e0, t0, hf0 ▸ ht0⟩, Or.inl rfl,
    fun h => by simp [hst] at h⟩, ?_, ?_⟩
  · rw [(applyCb_tm _ cb).2.2]; exact e0
  · rw [(applyCb_tm _ cb).1]; exact hf0

theorem failNow_core (m : DnsQuery.State) (h : QCore m) : QCore (failNow m) := by
  obtain ⟨hi, hn, _, ha, _⟩ := h
  refine ⟨cancel_inv _ _ hi, ?_, nofun, ha, nofun⟩
  show 1 ≤ (cancel m.tm m.overallTimer).1.nextId
  rw [cancel_nextId]; exact hn

/-- `xcm_dns_query_process` on a query in progress, whatever c-ares does: no branch aborts or dereferences a missing
timer, and the query fails exactly if c-ares brought no answer and the overall deadline `t0` has passed -/
theorem process_spec (s : DnsQuery.State) (now : Nat) (cb : Cb) (socks : List (Bool × Bool)) (to : Option Nat)
    (h : QInv s) (hcb : CbOk cb) (hst : s.st = .inProgress) (t0 : Timer) (ht0 : find s.tm 0 = some t0) :
    ∃ s', process s now cb socks to = .ok s' ∧ QInv s' ∧
      s'.st = (if (mid s cb).st ≠ .successful ∧ now > t0.expiry then .failed else (mid s cb).st) ∧
      (s'.st = .inProgress → find s'.tm 0 = some t0) ∧ (s'.st ≠ .inProgress → ∃ t ∈ s'.tm.timers, t.expiry = now) := by
  obtain ⟨hc, e0, hf⟩ := mid_core s cb h.1 hst hcb
  have hexp : hasExpired (mid s cb).tm now (mid s cb).overallTimer = .ok (decide (now > t0.expiry)) := by
    rw [e0, hasExpired, hf, ht0]
  rw [process, if_pos hst, processInProgress]
  by_cases c : (mid s cb).st ≠ .successful ∧ now > t0.expiry
  · have hu := failNow_core _ hc
    obtain ⟨hq, est, _, hlive⟩ := updateXpoll_spec _ now socks to (hi := hu.1) (hn := hu.2.1) (ha := hu.2.2.2.1)
    refine ⟨_, ?_, hq hu, est.trans (if_pos c).symm, fun h => QState.noConfusion (est.symm.trans h),
      fun _ => hlive nofun⟩
    rw [if_pos c.1, hexp, decide_eq_true c.2]
  · obtain ⟨hq, est, ef0, hlive⟩ := updateXpoll_spec _ now socks to (hi := hc.1) (hn := hc.2.1) (ha := hc.2.2.2.1)
    refine ⟨_, ?_, hq hc, est.trans (if_neg c).symm, fun _ => by rw [ef0, hf, ht0],
      fun h => hlive (est ▸ h)⟩
    by_cases hns : (mid s cb).st ≠ .successful
    · rw [if_pos hns, hexp, decide_eq_false fun hx => c ⟨hns, hx⟩]
    · rw [if_neg hns]

/-- a completed query is never changed by further processing, whatever c-ares would do -/
theorem C13_dns_completed_sticky (s : DnsQuery.State) (now : Nat) (cb : Cb) (socks : List (Bool × Bool)) (to : Option Nat)
    (h : s.st ≠ .inProgress) : process s now cb socks to = .ok s := by
  simp [process, h]

theorem process_inv (s : DnsQuery.State) (now : Nat) (cb : Cb) (socks : List (Bool × Bool)) (to : Option Nat)
    (h : QInv s) (hcb : CbOk cb) : ∃ s', process s now cb socks to = .ok s' ∧ QInv s' := by
  by_cases hst : s.st = .inProgress
  · obtain ⟨t0, ht0⟩ := h.deadline hst
    obtain ⟨s', e, hq, _⟩ := process_spec s now cb socks to h hcb hst t0 ht0
    exact ⟨s', e, hq⟩
  · exact ⟨s, C13_dns_completed_sticky s now cb socks to hst, h⟩

/-- `xcm_dns_query_result` with room for an address never trips its assertion and reports 1..capacity addresses, at
most XCM_DNS_MAX_RESULT_SIZE -/
theorem result_safe (s : DnsQuery.State) (cap : Nat) (h : QInv s) (hcap : 1 ≤ cap) :
    QInv (result s cap).2 ∧
    ((result s cap).1 = .err Generated.EAGAIN ∧ s.st = .inProgress ∨
     (result s cap).1 = .err Generated.ENOENT ∧ s.st = .failed ∨
     ∃ n, (result s cap).1 = .ok n ∧ s.st = .successful ∧ 1 ≤ n ∧ n ≤ cap ∧ n ≤ MAX_RESULT) := by
  have hs := h.1.2.2.2.2  -- `QCore`'s last part
  fun_cases result s cap with
  | case1 hst => exact ⟨h, Or.inl ⟨rfl, hst⟩⟩
  | case2 hst => exact ⟨h, Or.inr (Or.inl ⟨rfl, hst⟩)⟩
  | case3 hst len hlen =>
    -- `QCore` does not read `regs`
    exact ⟨⟨h.1, fun _ => rfl⟩, Or.inr (Or.inr ⟨_, rfl, hst, hlen, Nat.min_le_left _ _,
      Nat.le_trans (Nat.min_le_right _ _) (hs hst).2⟩)⟩
  | case4 hst len hlen => exact absurd (Nat.le_min.mpr ⟨hcap, (hs hst).1⟩) hlen

inductive Op where
  | process (now : Nat) (cb : Cb) (socks : List (Bool × Bool)) (to : Option Nat)
  | result (cap : Nat)
  deriving Repr

def OpOk : Op → Prop
  | .process _ cb _ _ => CbOk cb
  | .result cap => 1 ≤ cap

def step (s : DnsQuery.State) : Op → Option DnsQuery.State
  | .process now cb socks to => match process s now cb socks to with | .ok s' => some s' | _ => none
  | .result cap => match (result s cap).1 with | .abort _ => none | _ => some (result s cap).2

def run (s : DnsQuery.State) : List Op → Option DnsQuery.State
  | [] => some s
  | o :: os => match step s o with | some s' => run s' os | none => none

/-- every history of process / result calls on a query from `xcm_dns_resolve` runs to its end: nothing aborts -/
theorem dns_inv_run (ops : List Op) (hops : ∀ o ∈ ops, OpOk o) (s : DnsQuery.State) (h : QInv s) :
    ∃ s', run s ops = some s' ∧ QInv s' := by
  induction ops generalizing s with
  | nil => exact ⟨s, rfl, h⟩
  | cons o os ih =>
    obtain ⟨ho, hos⟩ := List.forall_mem_cons.mp hops
    cases o with
    | process now cb socks to =>
      obtain ⟨s1, e1, h1⟩ := process_inv s now cb socks to h ho
      simp only [run, step, e1]; exact ih hos s1 h1
    | result cap =>
      obtain ⟨hq, hr⟩ := result_safe s cap h ho
      have : step s (.result cap) = some (result s cap).2 := by
        simp only [step]
        rcases hr with ⟨e, _⟩ | ⟨e, _⟩ | ⟨n, e, _⟩ <;> rw [e]
      simp only [run, this]; exact ih hos _ hq

/-- the `process` call made after the overall deadline fails the query unless c-ares delivers the answer in that very
call; from then on the result is ENOENT -/
theorem C13_dns_timeout_enoent (s : DnsQuery.State) (now : Nat) (cb : Cb) (socks : List (Bool × Bool)) (to : Option Nat)
    (h : QInv s) (hst : s.st = .inProgress) (t0 : Timer) (ht0 : find s.tm 0 = some t0) (hlate : now > t0.expiry)
    (hcb : ∀ n, cb ≠ .success n) (cap : Nat) :
    ∃ s', process s now cb socks to = .ok s' ∧ s'.st = .failed ∧ (result s' cap).1 = .err Generated.ENOENT := by
  have hns : (mid s cb).st ≠ .successful ∧ CbOk cb := by
    cases cb with
    | success n => exact absurd rfl (hcb n)
    | _ => simp [mid, applyCb, hst, CbOk]
  obtain ⟨s', e, _, est, _⟩ := process_spec s now cb socks to h hns.2 hst t0 ht0
  rw [if_pos ⟨hns.1, hlate⟩] at est
  exact ⟨s', e, est, by simp [result, est]⟩

/-- no timeout before the deadline: as long as c-ares has not called back, the query stays in progress -/
theorem C13_dns_no_early_timeout (s : DnsQuery.State) (now : Nat) (socks : List (Bool × Bool)) (to : Option Nat)
    (h : QInv s) (hst : s.st = .inProgress) (t0 : Timer) (ht0 : find s.tm 0 = some t0) (hearly : now ≤ t0.expiry) :
    ∃ s', process s now .none socks to = .ok s' ∧ s'.st = .inProgress := by
  obtain ⟨s', e, _, est, _⟩ := process_spec s now .none socks to h trivial hst t0 ht0
  rw [if_neg fun c => Nat.not_lt.mpr hearly c.2] at est
  exact ⟨s', e, est.trans hst⟩

/-- the overall deadline is `now + dns.timeout` (the default when the attribute is not positive) -/
theorem C13_dns_deadline_value (now : Nat) (timeout : Int) (cb : Cb) (socks : List (Bool × Bool)) (to : Option Nat) :
    find (resolve now timeout cb socks to).1.tm 0 =
      some { id := 0, expiry := now + (if timeout ≤ 0 then DEFAULT_OVERALL_TIMEOUT else timeout.toNat) } := by
  unfold resolve
  rw [(updateXpoll_spec _ now socks to ?_ ?_ ?_).2.2.1, (applyCb_tm _ cb).1, find_schedule]
  · simp
  · rw [(applyCb_tm _ cb).1]; exact schedule_inv _ _ _ inv_init
  · rw [(applyCb_tm _ cb).1]; simp
  · rw [(applyCb_tm _ cb).2.1]; exact Or.inl rfl

/-- a `process` call that leaves the query in progress leaves its deadline alone -/
theorem process_keeps_deadline (s s' : DnsQuery.State) (now : Nat) (cb : Cb) (socks : List (Bool × Bool)) (to : Option Nat)
    (h : QInv s) (hcb : CbOk cb) (hst : s.st = .inProgress) (hp : process s now cb socks to = .ok s')
    (hst' : s'.st = .inProgress) : find s'.tm 0 = find s.tm 0 := by
  obtain ⟨t0, ht0⟩ := h.deadline hst
  obtain ⟨s2, e, _, _, hd, _⟩ := process_spec s now cb socks to h hcb hst t0 ht0
  rw [hp] at e; cases e
  rw [hd hst', ht0]

/-- one wake-up before the deadline without an answer from c-ares: (time, descriptor set, c-ares timeout) -/
abbrev Quiet := Nat × List (Bool × Bool) × Option Nat

def runQuiet (s : DnsQuery.State) : List Quiet → Outcome DnsQuery.State
  | [] => .ok s
  | (now, socks, to) :: rest =>
    match process s now .none socks to with
    | .ok s' => runQuiet s' rest
    | o => o

/-- dns.timeout: however often the owner is woken before the deadline (c-ares' retransmission timers, descriptor events
that bring no answer), the query stays in progress with the same deadline; the first `process` call after it fails the
query, and the result is ENOENT from then on -/
theorem C13_dns_times_out_in_every_history (s : DnsQuery.State) (h : QInv s) (hst : s.st = .inProgress)
    (t0 : Timer) (ht0 : find s.tm 0 = some t0) (qs : List Quiet) (hq : ∀ q ∈ qs, q.1 ≤ t0.expiry)
    (late : Nat) (hlate : late > t0.expiry) (socks : List (Bool × Bool)) (to : Option Nat) (cap : Nat) :
    ∃ s1, runQuiet s qs = .ok s1 ∧ s1.st = .inProgress ∧ find s1.tm 0 = some t0 ∧
      ∃ s2, process s1 late .none socks to = .ok s2 ∧ s2.st = .failed ∧ (result s2 cap).1 = .err Generated.ENOENT ∧
        ∀ now' cb' socks' to', process s2 now' cb' socks' to' = .ok s2 := by
  induction qs generalizing s with
  | nil =>
    refine ⟨s, rfl, hst, ht0, ?_⟩
    obtain ⟨s2, e2, f2, r2⟩ := C13_dns_timeout_enoent s late .none socks to h hst t0 ht0 hlate nofun cap
    exact ⟨s2, e2, f2, r2, fun _ _ _ _ => C13_dns_completed_sticky s2 _ _ _ _ (f2 ▸ nofun)⟩
  | cons q rest ih =>
    obtain ⟨s', e', hq', est, hd, _⟩ := process_spec s q.1 .none q.2.1 q.2.2 h trivial hst t0 ht0
    rw [if_neg fun c => Nat.not_lt.mpr (hq q List.mem_cons_self) c.2] at est
    obtain ⟨s1, r1, rest1⟩ := ih s' hq' (est.trans hst) (hd (est.trans hst)) fun q hq' => hq q (List.mem_cons_of_mem _ hq')
    exact ⟨s1, by simp only [runQuiet, e']; exact r1, rest1⟩

/-- the overall deadline of a query in progress is a live timer, so from the deadline on the timerfd is readable: the
owner is woken and its `process` call (`C13_dns_timeout_enoent`) ends the wait -/
theorem C04_dns_deadline_wakes (s : DnsQuery.State) (h : QInv s) (hst : s.st = .inProgress) :
    ∃ t0, find s.tm 0 = some t0 ∧ ∀ now, armValue t0.expiry ≤ now → readable s.tm now = true := by
  obtain ⟨t0, ht0⟩ := h.deadline hst
  exact ⟨t0, ht0, fun now hn => wakes_of_inv s.tm h.1.1 t0 (List.mem_of_find?_eq_some ht0) now hn⟩

/-- once a `process` call completes the query (answer, failure or deadline) the fd is readable, so the owner comes back
for the result; no c-ares descriptor stays registered -/
theorem C04_dns_completion_rings (s s' : DnsQuery.State) (now : Nat) (cb : Cb) (socks : List (Bool × Bool)) (to : Option Nat)
    (h : QInv s) (hcb : CbOk cb) (hst : s.st = .inProgress) (hp : process s now cb socks to = .ok s')
    (hdone : s'.st ≠ .inProgress) : (∀ now', now ≤ now' → 1 ≤ now' → readable s'.tm now' = true) ∧ s'.regs = [] := by
  obtain ⟨t0, ht0⟩ := h.deadline hst
  obtain ⟨s2, e, hq, _, _, hl⟩ := process_spec s now cb socks to h hcb hst t0 ht0
  rw [hp] at e; cases e
  -- the completed query's c-ares timer was rescheduled at `now`: a live timer that is due
  obtain ⟨t, ht, et⟩ := hl hdone
  exact ⟨fun now' h1 h2 => wakes_of_inv _ hq.1.1 t ht now' ((armValue_le_iff _ _).mpr ⟨et ▸ h1, h2⟩), hq.2 hdone⟩

/-- the query's timerfd is readable only if one of its timers is due -/
theorem C16_dns_quiet (s : DnsQuery.State) (h : QInv s) (now : Nat) (hrd : readable s.tm now = true) :
    ∃ t ∈ s.tm.timers, t.expiry ≤ now :=
  quiet_of_inv s.tm h.1.1 now hrd

/-- dns.timeout 2 s from t = 5 s, c-ares to be called again in 1 s, nothing arrives: the `process` call at 7 s + 1 ns
fails the query -/
example :
    let s0 := (resolve (5 * SEC) (2 * SEC) .none [(true, false)] (some SEC)).1
    s0.st = .inProgress ∧ s0.regs = [(0, EPOLLIN)] ∧ s0.tm.armed = some (6 * SEC) ∧
    (∃ s1, process s0 (6 * SEC) .none [(true, false)] (some SEC) = .ok s1 ∧ s1.st = .inProgress ∧ s1.tm.armed = some (7 * SEC) ∧
      ∃ s2, process s1 (7 * SEC + 1) .none [] none = .ok s2 ∧ s2.st = .failed ∧ s2.regs = [] ∧
        (result s2 32).1 = .err Generated.ENOENT ∧ readable s2.tm (7 * SEC + 1) = true) :=
  ⟨by decide, by decide, by decide, _, rfl, by decide, by decide, _, rfl, by decide⟩

example : QInv (resolve (5 * SEC) (2 * SEC) .none [(true, false)] (some SEC)).1 := resolve_inv _ _ _ _ _ trivial

end XcmModel.DnsProps
