import XcmModel.Lemmas.Btls
import XcmModel.Lemmas.Btcp
import XcmModel.Lemmas.Framing
import XcmModel.Props.C07  -- gen/props/C06.py audits `C07_eproto_sticky` and `C01_never_partial` through this module
/-!
# C06 — terminal conditions are reported faithfully and stick

For the `conn_state` machine of `Btcp` (xcm_tp_btcp.c); for `Framing` (xcm_tp_tcp.c = xcm_tp_tls.c), whose own
terminal state (EPROTO) is sticky by C07 and which never delivers a message the peer did not send completely
(`C01_never_partial`); for the TLS connection machine `Btls` (xcm_tp_btls.c).
-/
namespace XcmModel.C06
open XcmModel.Btcp XcmModel.C02

/-- in `closed` receive returns 0, send and finish fail with EPIPE, and the state stays, whatever the
environment answers -/
theorem C06_closed_behaviour (s : St) (hs : s.state = .closed) :
    (∀ cap est k, (receive s cap est k).2 = .n 0 [] ∧ (receive s cap est k).1.state = .closed) ∧
    (∀ buf est k, (send s buf est k).2 = .err EPIPE ∧ (send s buf est k).1.state = .closed) ∧
    (∀ est, (finish s est).2 = .err EPIPE ∧ (finish s est).1.state = .closed) := by
  -- as in `step_terminal`: the calls compute
  cases s
  cases hs
  exact ⟨fun _ _ _ => ⟨rfl, rfl⟩, fun _ _ _ => ⟨rfl, rfl⟩, fun _ => ⟨rfl, rfl⟩⟩

/-- in `bad e` every call reports the stored errno (`badness_reason`), and the state stays -/
theorem C06_bad_same_errno (s : St) (e : Nat) (hs : s.state = .bad e) :
    (∀ cap est k, (receive s cap est k).2 = .err e ∧ (receive s cap est k).1.state = .bad e) ∧
    (∀ buf est k, (send s buf est k).2 = .err e ∧ (send s buf est k).1.state = .bad e) ∧
    (∀ est, (finish s est).2 = .err e ∧ (finish s est).1.state = .bad e) := by
  cases s
  cases hs
  exact ⟨fun _ _ _ => ⟨rfl, rfl⟩, fun _ _ _ => ⟨rfl, rfl⟩, fun _ => ⟨rfl, rfl⟩⟩

/-- in `ready`, the call that receives the kernel's verdict returns it and enters the matching terminal state -/
theorem C06_discoverer_reports (s : St) (hs : s.state = .ready) :
    (∀ cap e, e ≠ EAGAIN → (receive s cap [] (.err e)).2 = .err e ∧ (receive s cap [] (.err e)).1.state = .bad e) ∧
    (∀ cap, (receive s cap [] .eof).2 = .n 0 [] ∧ (receive s cap [] .eof).1.state = .closed) ∧
    (∀ buf, (send s buf [] (.err EPIPE)).2 = .err EPIPE ∧ (send s buf [] (.err EPIPE)).1.state = .closed) ∧
    (∀ buf e, e ≠ EAGAIN → e ≠ EPIPE →
      (send s buf [] (.err e)).2 = .err e ∧ (send s buf [] (.err e)).1.state = .bad e) ∧
    (∀ cap, (receive s cap [] (.err EAGAIN)).1.state = .ready) ∧
    (∀ buf, (send s buf [] (.err EAGAIN)).1.state = .ready) := by
  -- in `ready` the gate is passed; what remains is the `if`s on the kernel's errno
  cases s
  cases hs
  refine ⟨fun cap e h => ?_, fun cap => ⟨rfl, rfl⟩, fun buf => ⟨rfl, rfl⟩, fun buf e h1 h2 => ?_, fun cap => rfl, fun buf => rfl⟩
  · simp only [receive, tryEstablish, if_neg h, and_self]
  · simp only [send, tryEstablish, if_neg h1, if_neg h2, and_self]

/-- an establishment failure, of the resolver or of tconnect: the observing call returns its errno and the state
is bad -/
theorem C06_establish_failure (s : St) (e : Nat) :
    (s.state = .resolving → (finish s [.fail e]).2 = .err e ∧ (finish s [.fail e]).1.state = .bad e) ∧
    (s.state = .connecting → (finish s [.fail e]).2 = .err e ∧ (finish s [.fail e]).1.state = .bad e) ∧
    (s.state = .resolving → (finish s [.ok, .ok, .fail e]).2 = .err e) ∧
    -- a DNS name as local address: the failure of either resolution is the connection's failure, with its errno
    (∀ r, s.state = .resolvingLocal r → (finish s [.fail e]).2 = .err e ∧ (finish s [.fail e]).1.state = .bad e) ∧
    (s.state = .resolvingLocal true → (finish s [.ok, .fail e]).2 = .err e ∧ (finish s [.ok, .fail e]).1.state = .bad e) := by
  cases s
  exact ⟨fun h => by cases h; exact ⟨rfl, rfl⟩, fun h => by cases h; exact ⟨rfl, rfl⟩, fun h => by cases h; rfl,
    fun r h => by cases h; exact ⟨rfl, rfl⟩, fun h => by cases h; exact ⟨rfl, rfl⟩⟩

/-- btcp: a closed or bad connection stays exactly so under every later history and every answer of the
environment -/
theorem C06_btcp_sticky (c : Conn) (h : Terminal c.s.state) (ops : List Op) :
    (c.run ops).s.state = c.s.state :=
  List.foldlRecOn (motive := fun d => d.s.state = c.s.state) ops Conn.step rfl
    fun _ e op _ => (step_terminal (e ▸ h) op).trans e

/-- on a terminal connection every call answers 0/EPIPE (closed) or the stored errno (bad); for ever, by
`C06_btcp_sticky` -/
theorem C06_no_success_after_terminal (c : Conn) (h : Terminal c.s.state) (op : Op) :
    match op, c.s.state with
    | .receive cap est k, .closed => (receive c.s cap est k).2 = .n 0 []
    | .send buf est k, .closed => (send c.s buf est k).2 = .err EPIPE
    | .finish est, .closed => (finish c.s est).2 = .err EPIPE
    | .receive cap est k, .bad e => (receive c.s cap est k).2 = .err e
    | .send buf est k, .bad e => (send c.s buf est k).2 = .err e
    | .finish est, .bad e => (finish c.s est).2 = .err e
    | _, _ => True := by
  cases hs : c.s.state with
  | closed =>
    have hc := C06_closed_behaviour c.s hs
    cases op with
    | receive cap est k => exact (hc.1 cap est k).1
    | send buf est k => exact (hc.2.1 buf est k).1
    | finish est => exact (hc.2.2 est).1
  | bad e =>
    have hb := C06_bad_same_errno c.s e hs
    cases op with
    | receive cap est k => exact (hb.1 cap est k).1
    | send buf est k => exact (hb.2.1 buf est k).1
    | finish est => exact (hb.2.2 est).1
  | _ => cases hs ▸ h

open XcmModel.Framing in
/-- with no frame pending for the lower layer and nothing queued from it, its end-of-stream is passed up as 0
and its errno unchanged; nothing else changes (the call can be repeated with the same answer) -/
theorem C06_framing_passes_up (s : Framing.St) (env : Framing.Env) (cap : Nat)
    (hb : s.bad = none) (hs : s.sbuf = []) (hrx : env.rx = []) (hlen : s.rbuf.length < 4 ∨
      (4 ≤ s.rbuf.length ∧ Wire.hdrValid (Wire.rd32 s.rbuf) = true ∧ s.rbuf.length < 4 + Wire.rd32 s.rbuf)) :
    (env.rxEnd = some .eof → Framing.receive s env cap [] = (s, env, .closed, [])) ∧
    (∀ e, env.rxEnd = some (.err e) → Framing.receive s env cap [] = (s, env, .err e, [])) := by
  -- `buffer_msg` asks for the rest of the header, or of the payload
  have hm (b : BufRes) (hf : b ≠ .full)
      (hq : ∀ len, s.rbuf.length + len ≤ Generated.MBUF_WIRE_MAX → bufferReceive s env len = (s, env, b)) :
      bufferMsg s env = (s, env, b) := by
    rcases hlen with h | ⟨h4, hv, hlt⟩
    · rw [bufferMsg_short s env h (hq _ (by rw [Nat.add_sub_cancel' (Nat.le_of_lt h)]; decide)), if_neg hf]
    · -- the bytes asked for end where the frame ends
      rw [bufferMsg_hdr s env h4,
        bufferPayload_valid s env hv (hq _ (frame_rest h4 hlt ▸ (hdrValid_bounds hv).2)), if_neg hf]
  have hq {x : RxEnd} (he : env.rxEnd = some x) (len : Nat) (hc : s.rbuf.length + len ≤ Generated.MBUF_WIRE_MAX) :
      bufferReceive s env len = (s, env, match x with | .eof => .closed | .err e => .err e) := by
    cases x <;> simp [bufferReceive, lowerReceive, Nat.not_lt.mpr hc, hrx, he]
  -- nothing to flush; `receive` passes the answer of `buffer_msg` on
  refine ⟨fun he => ?_, fun e he => ?_⟩
  · simp [Framing.receive, hb, tryFinishSend, tfs_idle _ _ _ hs, hm .closed nofun (hq he)]
  · simp [Framing.receive, hb, tryFinishSend, tfs_idle _ _ _ hs, hm (.err e) nofun (hq he)]

/-- the lower layer's send errno is what the flushing `finish` reports, and it is terminal (`Env.txErr`) -/
theorem C06_framing_send_errno (s : Framing.St) (env : Framing.Env) (e : Nat) (t : List Framing.SAns)
    (hb : s.bad = none) (hne : s.sbuf ≠ []) (hte : env.txErr = none) (hea : e ≠ Framing.EAGAIN) :
    (Framing.finish s env (.err e :: t) none).2.2.1 = .err e ∧
    (Framing.finish s env (.err e :: t) none).2.1.txErr = some e := by
  simp [Framing.finish, hb, Framing.tryFinishSend, Framing.tryFinishSendAux, hne, hte, hea]

/-- non-vacuity: a receive discovers ECONNRESET, another a peer close -/
example :
    ((Conn.init .ready).run [.receive 9 [] (.err Generated.ECONNRESET), .send [1] [] (.ok 1), .finish [],
      .receive 9 [] (.data [1])]).results
      = [.err Generated.ECONNRESET, .err Generated.ECONNRESET, .err Generated.ECONNRESET, .err Generated.ECONNRESET] ∧
    ((Conn.init .ready).run [.receive 9 [] (.data [5, 6]), .receive 9 [] .eof, .receive 9 [] (.data [7]),
      .send [1] [] (.ok 1), .finish []]).results
      = [.n 2 [5, 6], .n 0 [], .n 0 [], .err EPIPE, .err EPIPE] := by
  decide

end XcmModel.C06

namespace XcmModel.C06btls
open XcmModel.Btls

/-- after the close was seen: receive 0, send/finish EPIPE, for ever -/
theorem C06_btls_closed_behaviour (s : St) (hs : s.state = .closed) :
    (∀ cap h w r, (receive s cap h w r) = (s, .n 0 [], false, 0)) ∧
    (∀ buf h w, (send s buf h w) = (s, .err EPIPE, 0)) ∧
    (∀ h w l, (finish s h w l) = (s, .err EPIPE, 0)) := by
  have t := Terminal.calls (Or.inl hs)
  rw [hs] at t
  exact ⟨t.2.1, t.1, t.2.2⟩

/-- after a failure: the same errno from every call, for ever, and no OpenSSL call any more -/
theorem C06_btls_bad_same_errno (s : St) (e : Nat) (hs : s.state = .bad e) :
    (∀ cap h w r, (receive s cap h w r) = (s, .err e, false, 0)) ∧
    (∀ buf h w, (send s buf h w) = (s, .err e, 0)) ∧
    (∀ h w l, (finish s h w l) = (s, .err e, 0)) := by
  have t := Terminal.calls (Or.inr ⟨e, hs⟩)
  rw [hs] at t
  exact ⟨t.2.1, t.1, t.2.2⟩

/-- what the `*_main` statements give for a call that ends in a terminal state -/
theorem discovers {s : St} {r onClosed : Res} (h : r = stopRes onClosed s.state ∨ s.state = .ready) :
    (∀ e, s.state = .bad e → r = .err e) ∧ (s.state = .closed → r = onClosed) := by
  rcases h with rfl | hs
  · exact ⟨fun e h => h ▸ rfl, fun h => h ▸ rfl⟩
  · rw [hs]; exact ⟨fun e x => (by cases x), fun x => (by cases x)⟩

/-- the send that discovers a failure reports the errno that becomes sticky -/
theorem C06_btls_send_discovers (s : St) (buf : Bytes) (h : HAns) (ws : List WAns) :
    (∀ e, (send s buf h ws).1.state = .bad e → (send s buf h ws).2.1 = .err e) ∧
    ((send s buf h ws).1.state = .closed → (send s buf h ws).2.1 = .err EPIPE) :=
  discovers ((send_main s buf h ws).2.imp And.left fun ⟨_, h⟩ => h.2.2.2.2)

/-- the receive that discovers a failure reports its errno, a close as 0, whether the flush of retained output or
the read met it -/
theorem C06_btls_receive_discovers (s : St) (cap : Nat) (h : HAns) (ws : List WAns) (r : RAns) :
    (∀ e, (receive s cap h ws r).1.state = .bad e → (receive s cap h ws r).2.1 = .err e) ∧
    ((receive s cap h ws r).1.state = .closed → (receive s cap h ws r).2.1 = .n 0 []) :=
  discovers ((receive_main s cap h ws r).2.2.imp And.left fun ⟨_, h⟩ => h.2.2.2)

/-- the finish that discovers a failure reports its errno, a close as EPIPE -/
theorem C06_btls_finish_discovers (s : St) (h : HAns) (ws : List WAns) (l : Option Nat) :
    (∀ e, (finish s h ws l).1.state = .bad e → (finish s h ws l).2.1 = .err e) ∧
    ((finish s h ws l).1.state = .closed → (finish s h ws l).2.1 = .err EPIPE) :=
  discovers ((finish_main s h ws l).2.imp_right fun h => h.2.2)

/-- terminal states are absorbing under every continuation -/
theorem C06_btls_sticky (s : St) (ht : Terminal s) (ops : List Op) : run s ops = s := run_terminal ops ht

/-- `process_ssl_event`: a protocol error is EPROTO, an orderly or early close is `closed`, any other errno the
kernel raises below OpenSSL is reported as itself (EAGAIN is excluded by K-openssl-eagain, EINPROGRESS retried) -/
theorem C06_btls_classification (s : St) (c : Nat) (hs : ¬ Terminal s) :
    (processSslEvent s c .sslErr).state = .bad EPROTO ∧
    (processSslEvent s c .zeroReturn).state = .closed ∧
    (∀ e, (processSslEvent s c (.syscall e true)).state = .bad EPROTO) ∧
    (processSslEvent s c (.syscall EPIPE false)).state = .closed ∧
    (processSslEvent s c (.syscall 0 false)).state = .closed ∧
    (∀ e, e ≠ EAGAIN → e ≠ EINPROGRESS → e ≠ EPIPE → e ≠ 0 → (processSslEvent s c (.syscall e false)).state = .bad e) := by
  refine ⟨rfl, rfl, fun e => rfl, rfl, rfl, fun e h1 h2 h3 h4 => ?_⟩
  simp [processSslEvent, h1, h2, h3, h4]

end XcmModel.C06btls
