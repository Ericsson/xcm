import XcmModel.Lemmas.Tp
import XcmModel.Lemmas.BtlsUpdate
import XcmModel.Props.C13
import XcmModel.Props.C16
import XcmModel.Lemmas.Api
/-
  C04 - the event-loop contract is live: no lost wake-ups, blocking calls return.

  Liveness in its safety form, layer by layer: whenever a cause of possible progress exists, the layer concerned has
  asked the layer below to be woken for it, down to the kernel's epoll interest list (`C16_readable_when_met`).
  Progress per step is shown for the flush and for the blocking wrappers on scripts of refusals; that in real time a
  writable socket accepts a byte and data in flight becomes readable (K-progress) is assumed, and measured by sys_loop.
-/
namespace XcmModel.C04

/-- while a byte of an accepted message is buffered, `tcp_update`/`tls_update` ask the lower socket for SENDABLE, whatever
the application awaits (0 included): no wake-up for the flush is lost -/
theorem C04_pending_flush_is_watched (s : Framing.St) (cond : Nat) (h : s.sbuf ≠ []) :
    Framing.lowerCondition s cond &&& Generated.XCM_SO_SENDABLE ≠ 0 := by
  simp only [Framing.lowerCondition, List.isEmpty_eq_false_iff.mpr h, Bool.false_eq_true, if_false]
  simp [Generated.XCM_SO_SENDABLE, Nat.and_or_distrib_right]

/-- quiet when idle (C16): with nothing buffered the lower socket is asked for what the application awaits, no more -/
theorem C04_idle_asks_nothing_extra (s : Framing.St) (cond : Nat) (h : s.sbuf = []) :
    Framing.lowerCondition s cond = cond := by
  simp [Framing.lowerCondition, h]

/-- `tcp_update`/`tls_update` only ever add SENDABLE to what the application awaits -/
theorem C04_condition_passed_down (s : Framing.St) (cond bit : Nat) (h : cond &&& bit ≠ 0) :
    Framing.lowerCondition s cond &&& bit ≠ 0 := by
  unfold Framing.lowerCondition
  split
  · exact h
  · intro hc
    apply h
    rw [Nat.and_or_distrib_right] at hc
    exact (Nat.or_eq_zero_iff.mp hc).1

/-- when the lower layer takes bytes (`ok 0` counts as one), fewer are left to flush or the frame is gone -/
theorem C04_flush_progress (s : Framing.St) (env : Framing.Env) (k : Nat)
    (hne : s.sbuf ≠ []) (hw : s.sent < s.sbuf.length) (herr : env.txErr = none) :
    let r := Framing.tryFinishSend s env [.ok k]
    r.1.sbuf = [] ∨ (r.1.sbuf = s.sbuf ∧ r.1.sbuf.length - r.1.sent < s.sbuf.length - s.sent) := by
  simp only [Framing.tryFinishSend, Framing.tryFinishSendAux, List.isEmpty_eq_false_iff.mpr hne, herr,
    Bool.false_eq_true, if_false]
  split
  · exact Or.inl rfl
  · -- `max 1 _` bytes are taken: at least one, and `hw` leaves room for it
    exact Or.inr ⟨rfl, Nat.sub_lt_sub_left hw (Nat.lt_add_of_pos_right (Nat.le_max_left 1 _))⟩

/-- btcp: once established, awaited input/output is registered on the data descriptor; terminal states and a completed
resolution (`q`) ring the bell whatever is awaited -/
theorem C04_btcp_wake (cond : Nat) (q : Bool) (e : Nat) :
    (∃ ev, Btcp.connUpdate .ready cond q = (false, some ev)
        ∧ (cond &&& Generated.XCM_SO_RECEIVABLE ≠ 0 → ev &&& 1 ≠ 0)
        ∧ (cond &&& Generated.XCM_SO_SENDABLE ≠ 0 → ev &&& 4 ≠ 0))
    ∧ (Btcp.connUpdate .closed cond q).1 = true
    ∧ (Btcp.connUpdate (.bad e) cond q).1 = true
    ∧ (Btcp.connUpdate .resolving cond true).1 = true := by
  refine ⟨⟨_, rfl, ?_, ?_⟩, rfl, rfl, rfl⟩
  · intro h
    rw [if_pos h]
    split <;> decide
  · intro h
    rw [if_pos h]
    split <;> decide

/-- connecting: the attempt's descriptor is registered for EPOLLOUT and its timer armed; so is the Happy Eyeballs delay's -/
theorem C04_connect_phase_watched (addrs : List Tconnect.Fam) (fd4 fd6 hl delay : Bool) (s0 : List Tconnect.Tok)
    (scripts : List (List Tconnect.Tok)) :
    let t := C13.runTrack (Tconnect.trackCreate addrs fd4 fd6 hl delay s0 []).1 scripts
    (t.state = .connecting → t.reg = true ∧ t.timer = true) ∧ (t.state = .initialDelay → t.timer = true) :=
  C13.C13_waiting_is_watched _ (C13.reachable_good addrs fd4 fd6 hl delay s0 scripts)

/-- non-blocking xcm_send is one call of the transport (C05): no loop that could fail to return -/
theorem C04_nonblocking_single_call (bs : Bool) (len : Nat) (script : List Api.Ans) :
    (Api.send { blocking := false, bytestream := bs } len script).2.length = 1 := by
  simp only [Api.send]
  cases (Api.next script).1 <;> rfl

/-- `k` refusals (EAGAIN) by the transport, each followed by a wake-up (the answer to `poll`) -/
def refusals (k : Nat) : List Api.Ans := (List.replicate k [Api.Ans.err Api.EAGAIN, Api.Ans.ok 0]).flatten

theorem refusals_succ (k : Nat) :
    refusals (k + 1) = Api.Ans.err Api.EAGAIN :: Api.Ans.ok 0 :: refusals k := rfl

theorem refusals_length (k : Nat) : (refusals k).length = 2 * k := by
  induction k with
  | zero => rfl
  | succ i ih => rw [refusals_succ, List.length_cons, List.length_cons, ih, Nat.mul_succ]

theorem lt_fuelOf (k : Nat) (rest : List Api.Ans) : k < Api.fuelOf (refusals k ++ rest) := by
  rw [Api.fuelOf, List.length_append, refusals_length]
  omega

theorem msgBsend_returns (k fuel len n : Nat) (rest : List Api.Ans) (tr : List Api.Call) (hf : k < fuel) :
    (Api.msgBsend fuel len (refusals k ++ Api.Ans.ok n :: rest) tr).1 = .rc 0
    ∧ (Api.msgBsend fuel len (refusals k ++ Api.Ans.ok n :: rest) tr).2.1 = rest :=
  match k, fuel, hf with
  | 0, _ + 1, _ => ⟨rfl, rfl⟩
  -- one refused round (EAGAIN, wake-up) computes to the call on the rest with one unit of fuel less
  | j + 1, f + 1, hf => msgBsend_returns j f len n rest _ (Nat.lt_of_succ_lt_succ hf)

theorem socketFinish_returns (j fuel : Nat) (rest : List Api.Ans) (tr : List Api.Call) (hf : j < fuel) :
    (Api.socketFinish fuel (refusals j ++ Api.Ans.ok 0 :: rest) tr).1 = .rc 0 :=
  match j, fuel, hf with
  | 0, _ + 1, _ => rfl
  | i + 1, f + 1, hf => socketFinish_returns i f rest _ (Nat.lt_of_succ_lt_succ hf)

/-- **blocking xcm_send returns as soon as the transport accepts the message**: after any number of refusals, each
followed by a wake-up, the first acceptance ends the loop; likewise the flush (`socket_finish`) -/
theorem C04_blocking_send_returns (k j len n : Nat) :
    (Api.send { blocking := true, bytestream := false } len (refusals k ++ Api.Ans.ok n :: (refusals j ++ [Api.Ans.ok 0]))).1 = .rc 0 := by
  rw [Api.send_blocking_msg]
  have h := msgBsend_returns k _ len n (refusals j ++ [Api.Ans.ok 0]) [] (lt_fuelOf k (Api.Ans.ok n :: (refusals j ++ [Api.Ans.ok 0])))
  generalize Api.msgBsend _ len _ [] = r at h ⊢
  fun_cases Api.finishAfter r with
  | case1 => exact nomatch h.1
  | case2 _ t tr e _ _ hq =>
    -- `hq`: the flush returned `.err e`, which on the rest of the script it cannot
    obtain ⟨_, rfl⟩ := h
    have hfin := socketFinish_returns j _ [] tr (lt_fuelOf j [Api.Ans.ok 0])
    rw [hq] at hfin
    cases hfin
  | case3 => exact h.1

/-- non-vacuity: refused twice, accepted, the flush refused once -/
example : (Api.send { blocking := true, bytestream := false } 10 (refusals 2 ++ Api.Ans.ok 0 :: (refusals 1 ++ [Api.Ans.ok 0]))).1 = .rc 0 := by
  decide

end XcmModel.C04

namespace XcmModel.C04btls
open XcmModel.Btls

/-- `conn_update` of xcm_tp_btls.c: during the TLS handshake the TCP socket below is watched for what OpenSSL said it
needs, whatever the application awaits (0 included) -/
theorem C04_btls_handshake_watched (s : St) (hi : WInv s) (hs : s.state = .handshaking) (cond : Nat) (hp : Bool) :
    connUpdate s cond hp = (false, s.sslWants, true, false) ∧ s.sslWants ≠ 0 := by
  have hne := isRS_ne_zero (hi.hsWants hs)
  unfold connUpdate connUpdateCore
  simp [hs, hne]

/-- a ready connection awaiting something: the bell rings (the fd is readable at once) or the TCP socket below is asked
to watch something, never neither -/
theorem C04_btls_waiter_has_source (s : St) (hi : WInv s) (hs : s.state = .ready) (cond : Nat) (hp : Bool)
    (hc : cond = 1 ∨ cond = 2 ∨ cond = 3) :
    (connUpdate s cond hp).2.2.2 = false ∧
    ((connUpdate s cond hp).1 = true ∨ ((connUpdate s cond hp).2.1 ≠ 0 ∧ (connUpdate s cond hp).2.2.1 = true)) := by
  rcases update_ready hs cond hp with ⟨_, e⟩ | ⟨g, e⟩ <;> rw [e]
  · exact ⟨rfl, Or.inl rfl⟩
  · exact ⟨rfl, Or.inr ⟨fun h => watch_ne_zero hi (by omega) g (Nat.or_eq_zero_iff.mp h).1, rfl⟩⟩

/-- output that XCM accepted and still retains (SSL_write could not complete) always has a source of wake-up, whatever
the application awaits (0 included): the bell rings or the TCP socket below is watched for what the last flush attempt
needed (SENDABLE if unknown) -/
theorem C04_btls_retained_output_watched (s : St) (hs : s.state = .ready) (hp : s.pend ≠ []) (cond : Nat) (pending : Bool) :
    (connUpdate s cond pending).1 = true ∨
    ((connUpdate s cond pending).2.1 ≠ 0 ∧ (connUpdate s cond pending).2.2.1 = true) := by
  rcases update_ready hs cond pending with ⟨_, e⟩ | ⟨_, e⟩ <;> rw [e]
  · exact Or.inl rfl
  · exact Or.inr ⟨fun h => flushWatch_ne_zero hp (Nat.or_eq_zero_iff.mp h).2, rfl⟩

/-- closed or failed: the bell rings, so the application comes to collect the terminal condition -/
theorem C04_btls_terminal_rings (s : St) (ht : Terminal s) (cond : Nat) (hp : Bool) :
    (connUpdate s cond hp).1 = true := by
  rw [connUpdate_bell]
  unfold connUpdateCore
  rcases ht with h | ⟨e, h⟩ <;> simp [h]

/-- decrypted bytes already held by OpenSSL make a RECEIVABLE waiter readable at once -/
theorem C04_btls_pending_rings (s : St) (hs : s.state = .ready) (cond : Nat) (hc : cond = 1 ∨ cond = 3) :
    (connUpdate s cond true).1 = true := by
  rw [connUpdate_bell]
  unfold connUpdateCore
  rcases hc with hc | hc <;> simp [hs, hc, RECEIVABLE, Generated.XCM_SO_RECEIVABLE]

end XcmModel.C04btls

namespace XcmModel.C04ux

/-- `conn_event` of xcm_tp_ux.c: awaiting RECEIVABLE watches the descriptor for input, SENDABLE for output, and neither
displaces the other -/
theorem C04_ux_each_condition_watched (cond : Nat) :
    (cond &&& Generated.XCM_SO_RECEIVABLE ≠ 0 → Ux.connEvent cond &&& Ux.EPOLLIN ≠ 0) ∧
    (cond &&& Generated.XCM_SO_SENDABLE ≠ 0 → Ux.connEvent cond &&& Ux.EPOLLOUT ≠ 0) ∧
    Ux.connEvent (Generated.XCM_SO_RECEIVABLE ||| Generated.XCM_SO_SENDABLE) = Ux.EPOLLIN ||| Ux.EPOLLOUT := by
  unfold Ux.connEvent
  refine ⟨fun h => ?_, fun h => ?_, by decide⟩
  · rw [if_pos h]
    split <;> decide
  · rw [if_pos h]
    split <;> decide

/-- `server_event`: a server awaiting ACCEPTABLE watches its listening descriptor for input -/
theorem C04_ux_server_watched : Ux.serverEvent Generated.XCM_SO_ACCEPTABLE = Ux.EPOLLIN := by decide

end XcmModel.C04ux

namespace XcmModel.C04tp
open XcmModel.Tp

/-- xcm_tp.c: on every socket the application sees (auto_update), xcm_send / xcm_receive / xcm_finish end with the
transport's `update`, whatever the transport answered and whether or not the control interface was serviced: what the
call left buffered or blocked is registered before it returns -/
theorem C04_registrations_refreshed (s : Sock) (a : Ans) (h : s.auto = true) :
    (send s a).2.getLast? = some .update ∧ (receive s a).2.getLast? = some .update ∧
    (finish s a).2.getLast? = some .update :=
  ⟨getLast?_autoUpdate _ ((considerCtl_auto s _ _).trans h) _,
   getLast?_autoUpdate _ ((considerCtl_auto s _ _).trans h) _,
   getLast?_autoUpdate _ ((considerCtl_auto s _ _).trans h) _⟩

/-- a successful connect / accept evaluates the new connection's registrations; every accept, successful or not,
re-evaluates the server socket's (`xcm_tp_socket_update`, unconditionally) -/
theorem C04_new_sockets_registered (s srv : Sock) (a : Ans) (h : s.auto = true) (ok : isFail a = false) :
    (connect s a).2.getLast? = some .update ∧ Call.update ∈ (accept s srv a).2.2 ∧
    (∀ a', (accept s srv a').2.2.getLast? = some .updateServer) := by
  have h1 : (autoEnableCtl s).1.auto = true := (autoEnableCtl_auto s).trans h
  refine ⟨?_, ?_, fun a' => List.getLast?_concat ..⟩
  · simp only [connect, ok, Bool.false_eq_true, if_false]
    exact getLast?_autoUpdate _ h1 _
  · simp only [accept, ok, Bool.false_eq_true, if_false, autoUpdate, h1, if_true]
    simp only [List.mem_append, List.mem_singleton, true_or, or_true]

end XcmModel.C04tp

namespace XcmModel.C04stack
open XcmModel.Xpoll

/-- tcp over an established btcp connection: while a byte of an accepted message is buffered, btcp registers its kernel
socket for output, whatever the application awaits -/
theorem C04_tcp_stack_registers_output (fr : Framing.St) (cond : Nat) (q : Bool) (h : fr.sbuf ≠ []) :
    ∃ ev, Btcp.connUpdate .ready (Framing.lowerCondition fr cond) q = (false, some ev) ∧ ev &&& 4 ≠ 0 := by
  obtain ⟨⟨ev, h1, _, h3⟩, _⟩ := C04.C04_btcp_wake (Framing.lowerCondition fr cond) q 0
  exact ⟨ev, h1, h3 (C04.C04_pending_flush_is_watched fr cond h)⟩

/-- framing + btcp + xpoll composed: in a reachable xpoll state where that registration stands (`hupd`, `hreg`), a
writable kernel socket (K-epoll: `ready fd m` for every mask `m` that asks for output) makes the XCM socket's fd readable -/
theorem C04_tcp_stack_wakeup {x : X} (hx : C16.Reach x) (fr : Framing.St) (cond : Nat) (q : Bool) (h : fr.sbuf ≠ [])
    (ready : Nat → Nat → Bool) (i fd ev : Nat)
    (hupd : Btcp.connUpdate .ready (Framing.lowerCondition fr cond) q = (false, some ev))
    (hreg : x.slots[i]? = some (some (fd, ev))) (hfd : fd ≠ ACTIVE)
    (hwritable : ∀ m, m &&& 4 ≠ 0 → ready fd m = true) :
    readable x ready = true := by
  obtain ⟨ev', h1, h2⟩ := C04_tcp_stack_registers_output fr cond q h
  cases hupd.symm.trans h1
  exact (C16.C16_readable_when_met hx ready).2 i fd ev hreg hfd (fun h0 => h2 (h0 ▸ Nat.zero_and 4)) (hwritable ev h2)

/-- tls over a ready btls connection: while a byte of an accepted message is buffered, the bell rings or the TCP socket
below TLS is asked to watch something and is updated: the flush can be woken through all three layers -/
theorem C04_tls_stack_has_source (fr : Framing.St) (cond : Nat) (s : Btls.St) (hi : Btls.WInv s) (hs : s.state = .ready)
    (hp : Bool) (h : fr.sbuf ≠ []) (hc : cond ≤ 3) :
    (Btls.connUpdate s (Framing.lowerCondition fr cond) hp).1 = true ∨
    ((Btls.connUpdate s (Framing.lowerCondition fr cond) hp).2.1 ≠ 0 ∧ (Btls.connUpdate s (Framing.lowerCondition fr cond) hp).2.2.1 = true) := by
  have hl : Framing.lowerCondition fr cond = 1 ∨ Framing.lowerCondition fr cond = 2 ∨ Framing.lowerCondition fr cond = 3 := by
    simp only [Framing.lowerCondition, List.isEmpty_eq_false_iff.mpr h, Bool.false_eq_true, if_false]
    -- `cond ≤ 3`: four cases
    revert cond
    decide
  exact (C04btls.C04_btls_waiter_has_source s hi hs _ hp hl).2

/-- non-vacuity of `C04_tcp_stack_wakeup`'s hypotheses -/
example :
    let fr : Framing.St := { sbuf := [0, 0, 0, 1, 7] }
    let x : X := (fdRegAdd {} 5 4).1
    C16.Reach x ∧ fr.sbuf ≠ [] ∧ x.slots[0]? = some (some (5, 4)) ∧ (5 : Nat) ≠ ACTIVE ∧
    Btcp.connUpdate .ready (Framing.lowerCondition fr 0) false = (false, some 4) :=
  ⟨C16.Reach.fdAdd 5 4 C16.Reach.init (by decide) (by decide), by decide, by decide, by decide, by decide⟩

end XcmModel.C04stack
