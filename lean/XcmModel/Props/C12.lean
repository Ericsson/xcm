import XcmModel.Addr
import XcmModel.Lemmas.Libc
/-!
# C12 — address strings: make and parse are inverses, within their bounds

`inet_pton`/`inet_ntop` enter through `IpText`; the round trip assumes `IpLaws`, checked against glibc by the `unit_addr`
harness.
-/
namespace XcmModel.C12
open XcmModel XcmModel.Addr XcmModel.Libc

theorem snprintf_spec {cap : Nat} {str buf : Bytes} {rc : Nat} (h : snprintf cap str = (buf, rc)) :
    rc = str.length ∧ buf.length ≤ cap ∧ (rc < cap → buf = str ++ [0]) := by
  obtain ⟨rfl, rfl⟩ := Prod.mk.inj h
  refine ⟨rfl, ?_, fun hlt => ?_⟩
  · split
    · exact Nat.zero_le _
    · next hc =>
      rw [List.length_append, List.length_take]
      show min (cap - 1) str.length + 1 ≤ cap
      exact Nat.le_trans (Nat.succ_le_succ (Nat.min_le_left _ _)) (Nat.le_of_eq (Nat.succ_pred_eq_of_ne_zero hc))
  · rw [if_neg (Nat.ne_of_gt (Nat.zero_lt_of_lt hlt)), List.take_of_length_le (Nat.le_sub_one_of_lt hlt)]

/-- `xcm_addr_make_<proto>` stores the whole NUL-terminated address within `cap` bytes or, if it does not fit, fails with
ENAMETOOLONG having touched at most `cap` bytes: no truncated success -/
theorem C12_make_total (ip : IpText) (proto : Bytes) (h : Host) (port cap : Nat) :
    match hostPortMake ip proto h port cap with
    | .ok buf => buf = hostPortStr ip proto h port ++ [0] ∧ buf.length ≤ cap
    | .toolong w => (hostPortStr ip proto h port).length + 1 > cap ∧ w ≤ cap
    | .inval => False := by
  -- 1 too long, 2 stored
  fun_cases hostPortMake ip proto h port cap with
  | case1 buf rc hs hc =>
    obtain ⟨rfl, hb, _⟩ := snprintf_spec hs
    exact ⟨Nat.lt_succ_of_le hc, hb⟩
  | case2 buf rc hs hc =>
    obtain ⟨rfl, hb, hf⟩ := snprintf_spec hs
    cases hf (Nat.lt_of_not_le hc)
    exact ⟨rfl, hb⟩

/-- ux/uxf likewise, and EINVAL exactly for a name over `UX_NAME_MAX`, which evaluates to the `UNIX_PATH_MAX - 1` of
`addr_make_ux_uxf` -/
theorem C12_make_ux_total (proto name : Bytes) (cap : Nat) :
    match uxMake proto name cap with
    | .ok buf => buf = proto ++ [colon] ++ name ++ [0] ∧ buf.length ≤ cap ∧
        name.length ≤ Generated.UX_NAME_MAX
    | .toolong w => (proto ++ [colon] ++ name).length + 1 > cap ∧ w ≤ cap
    | .inval => name.length > Generated.UX_NAME_MAX := by
  -- 1 name too long, 2 too long, 3 stored
  fun_cases uxMake proto name cap with
  | case1 hn => exact hn
  | case2 hn buf rc hs hc =>
    obtain ⟨rfl, hb, _⟩ := snprintf_spec hs
    exact ⟨Nat.lt_succ_of_le hc, hb⟩
  | case3 hn buf rc hs hc =>
    obtain ⟨rfl, hb, hf⟩ := snprintf_spec hs
    cases hf (Nat.lt_of_not_le hc)
    exact ⟨rfl, hb, Nat.le_of_not_lt hn⟩

theorem idxOf_some {c : UInt8} {s : Bytes} {i : Nat} (h : idxOf c s = some i) :
    s = s.take i ++ c :: s.drop (i + 1) ∧ c ∉ s.take i ∧ i < s.length := by
  fun_induction idxOf c s generalizing i with
  | case1 => cases h
  | case2 => cases h; simp
  | case3 x t hx ih =>
    obtain ⟨j, hj, rfl⟩ := Option.map_eq_some_iff.mp h
    obtain ⟨h1, h2, h3⟩ := ih hj
    simp only [List.take_succ_cons, List.drop_succ_cons, List.cons_append, List.mem_cons, not_or,
      List.length_cons]
    exact ⟨by rw [← h1], ⟨Ne.symm hx, h2⟩, Nat.succ_lt_succ h3⟩

theorem idxOf_append_of_not_mem {c : UInt8} (p rest : Bytes) (h : c ∉ p) :
    idxOf c (p ++ c :: rest) = some p.length := by
  induction p with
  | nil => simp [idxOf]
  | cons x t ih =>
    rw [List.mem_cons, not_or] at h
    simp [idxOf, Ne.symm h.1, ih h.2]

theorem lastIdxOf_eq_none {c : UInt8} {s : Bytes} (h : c ∉ s) : lastIdxOf c s = none := by
  induction s with
  | nil => rfl
  | cons x t ih =>
    rw [List.mem_cons, not_or] at h
    simp [lastIdxOf, ih h.2, Ne.symm h.1]

theorem lastIdxOf_some {c : UInt8} {s : Bytes} {i : Nat} (h : lastIdxOf c s = some i) :
    s = s.take i ++ c :: s.drop (i + 1) ∧ i < s.length := by
  -- 1 nil, 2 a later one, 3 the head alone, 4 none
  fun_induction lastIdxOf c s generalizing i with
  | case1 => cases h
  | case2 x t j hl ih =>
    cases h
    obtain ⟨h1, h3⟩ := ih hl
    simp only [List.take_succ_cons, List.drop_succ_cons, List.cons_append, List.length_cons]
    exact ⟨by rw [← h1], Nat.succ_lt_succ h3⟩
  | case3 => cases h; simp
  | case4 => cases h

theorem lastIdxOf_append {c : UInt8} (p rest : Bytes) (h : c ∉ rest) :
    lastIdxOf c (p ++ c :: rest) = some p.length := by
  induction p with
  | nil => simp [lastIdxOf, lastIdxOf_eq_none h]
  | cons x t ih => simp [lastIdxOf, ih]

/-- the range check of `host_port_parse` on `strtol`'s result: a clamped value is out of range anyway -/
theorem strtolVal_port {n v : Nat} :
    (if (strtolVal false n < 0 || strtolVal false n > 65535) = true then none else some (strtolVal false n).toNat) = some v ↔
      n = v ∧ v ≤ 65535 := by
  have hL : 65535 < LONG_MAX := by decide
  simp only [strtolVal, Bool.false_eq_true, if_false, Bool.or_eq_true, decide_eq_true_eq,
    Option.ite_none_left_eq_some, Option.some.injEq]
  split  -- clamped to `LONG_MAX` or not
  · rw [Int.toNat_natCast]; omega
  · rw [Int.toNat_natCast]; omega

theorem portParse_eq_some_iff {p : Bytes} {v : Nat} :
    portParse p = some v ↔
      p ≠ [] ∧ (∀ c ∈ p, isDigit c = true) ∧ digitsVal p = v ∧ v ≤ 65535 := by
  cases p with
  | nil => simp [portParse]
  | cons d t =>
    cases hd : isDigit d with
    | false =>
      simp [portParse, hd]
    | true =>
      simp only [portParse, List.head?_cons, hd, strtol_of_digit t hd, Bool.not_true,
        Bool.false_eq_true, if_false]
      by_cases hdig : ∀ c ∈ d :: t, isDigit c = true
      · have hall : (d :: t).takeWhile isDigit = d :: t :=
          List.append_nil (d :: t) ▸ List.takeWhile_append_of_pos hdig
        rw [hall, if_neg (not_not_intro rfl), strtolVal_port]
        exact ⟨fun h => ⟨List.cons_ne_nil _ _, hdig, h⟩, fun h => h.2.2⟩
      · have hlen : ((d :: t).takeWhile isDigit).length ≠ (d :: t).length := fun h =>
          hdig fun c hc => mem_takeWhile_imp ((List.takeWhile_prefix _).eq_of_length h ▸ hc)
        rw [if_pos hlen]
        exact ⟨nofun, fun h => absurd h.2.1 hdig⟩

/-- an accepted port field is a non-empty string of decimal digits (no sign, no blank) whose value, at most 65535, is
the port reported -/
theorem C12_port_syntax {p : Bytes} {v : Nat} (h : portParse p = some v) :
    p ≠ [] ∧ (∀ c ∈ p, isDigit c = true) ∧ digitsVal p = v ∧ v ≤ 65535 :=
  portParse_eq_some_iff.mp h

/-- Every caller's address buffer has `XCM_ADDR_MAX + 1` bytes, so holds what is left of a string that passed the length
check: the second `toolong` is never taken. -/
theorem protoAddrParse_ok_iff {s : Bytes} {pc : Nat} {p rest : Bytes} :
    protoAddrParse s pc (Generated.XCM_ADDR_MAX + 1) = .ok (p, rest) ↔
      s = p ++ colon :: rest ∧ colon ∉ p ∧ s.length ≤ Generated.XCM_ADDR_MAX ∧ hasSpace s = false ∧
      p.length ≤ Generated.XCM_ADDR_MAX_PROTO_LEN ∧ p.length < pc := by
  constructor
  · fun_cases protoAddrParse s pc (Generated.XCM_ADDR_MAX + 1) with
    | case6 h0 i hi h1 h2 =>  -- the `.ok` exit
      intro h
      obtain ⟨rfl, rfl⟩ := Prod.mk.inj (Except.ok.inj h)
      simp only [Bool.or_eq_true, decide_eq_true_eq, not_or] at h0
      obtain ⟨e1, e2, e3⟩ := idxOf_some hi
      have hl : (s.take i).length = i := List.length_take_of_le (Nat.le_of_lt e3)
      exact ⟨e1, e2, Nat.le_of_not_lt h0.1, by simpa using h0.2, Nat.le_trans (Nat.le_of_eq hl) (Nat.le_of_not_lt h1),
        Nat.lt_of_le_of_lt (Nat.le_of_eq hl) (Nat.lt_of_not_le h2)⟩
    | _ => nofun
  · rintro ⟨rfl, hc, hlen, hsp, h1, h2⟩
    have h3 : rest.length < Generated.XCM_ADDR_MAX + 1 := by
      rw [List.length_append, List.length_cons] at hlen; omega
    -- the parser on the canonical string
    simp only [protoAddrParse, hsp, Nat.not_lt.mpr hlen, decide_false, Bool.or_false, Bool.false_eq_true, if_false,
      idxOf_append_of_not_mem p rest hc, Nat.not_lt.mpr h1, Nat.not_le.mpr h2, List.drop_length_add_append, List.drop_succ_cons, List.drop_zero,
      Nat.not_le.mpr h3, List.take_left' rfl]

/-- the documented syntax `<proto>:<host>:<port>`: the port plain decimal, the host 1..512 characters that `host_parse`
recognises -/
structure HostPortSyntax (ip : IpText) (proto s : Bytes) (h : Host) (port : Nat) : Prop where
  split : ∃ hostTxt portTxt, s = proto ++ colon :: (hostTxt ++ colon :: portTxt) ∧
    portTxt ≠ [] ∧ (∀ c ∈ portTxt, isDigit c = true) ∧ digitsVal portTxt = port ∧
    1 ≤ hostTxt.length ∧ hostTxt.length ≤ Generated.XCM_ADDR_MAX_HOST_LEN ∧
    hostParse ip hostTxt = some h
  port_range : port ≤ 65535
  total_len : s.length ≤ Generated.XCM_ADDR_MAX
  no_space : hasSpace s = false

/-- The conditions on `proto` are for the converse: the split is at the first colon, into a buffer of
`XCM_ADDR_MAX_PROTO_LEN + 1` bytes. -/
theorem hostPortParse_ok_iff {ip : IpText} {proto s : Bytes} {h : Host} {port : Nat} :
    hostPortParse ip proto s = .ok (h, port) ↔
      colon ∉ proto ∧ proto.length ≤ Generated.XCM_ADDR_MAX_PROTO_LEN ∧
        HostPortSyntax ip proto s h port := by
  constructor
  · fun_cases hostPortParse ip proto s with
    | case7 _ paddr hpa hpe i hl _ hport hi _ hh =>  -- the `.ok` exit; `hh`: the host parses
      intro hp
      cases hp
      cases Decidable.not_not.mp hpe
      obtain ⟨e1, e2, e3, e4, e5, _⟩ := protoAddrParse_ok_iff.mp hpa
      obtain ⟨f1, f3⟩ := lastIdxOf_some hl
      obtain ⟨g1, g2, g3, g4⟩ := portParse_eq_some_iff.mp hport
      simp only [Bool.or_eq_true, decide_eq_true_eq, beq_iff_eq] at hi
      have hlen : (paddr.take i).length = i := List.length_take_of_le (Nat.le_of_lt f3)
      exact ⟨e2, e5, ⟨paddr.take i, paddr.drop (i + 1), by rw [← f1]; exact e1, g1, g2, g3,
        by rw [hlen]; exact Nat.pos_of_ne_zero fun h => hi (.inr h),
        by rw [hlen]; exact Nat.le_of_not_lt fun h => hi (.inl h), hh⟩, g4, e3, e4⟩
    | _ => nofun
  · rintro ⟨hc, hl, ⟨hostTxt, portTxt, rfl, hne, hdig, hval, h1, h2, hh⟩, hr, htot, hsp⟩
    have hpa := protoAddrParse_ok_iff.mpr ⟨rfl, hc, htot, hsp, hl, Nat.lt_succ_of_le hl⟩
    have hnc : colon ∉ portTxt := fun hm => absurd (hdig _ hm) (by decide)
    -- the parser on the canonical string
    simp [hostPortParse, hpa, lastIdxOf_append _ _ hnc,
      portParse_eq_some_iff.mpr ⟨hne, hdig, hval, hr⟩, h2, List.length_pos_iff.mp h1, hh]

/-- what `xcm_addr_parse_<proto>` accepts has the documented syntax -/
theorem C12_parse_sound (ip : IpText) (proto s : Bytes) (h : Host) (port : Nat)
    (hp : hostPortParse ip proto s = .ok (h, port)) : HostPortSyntax ip proto s h port :=
  (hostPortParse_ok_iff.mp hp).2.2

theorem ux_length_le {proto name : Bytes} (hl : proto.length ≤ Generated.XCM_ADDR_MAX_PROTO_LEN)
    (hn : name.length ≤ Generated.UX_NAME_MAX) : (proto ++ colon :: name).length ≤ Generated.XCM_ADDR_MAX := by
  simp only [List.length_append, List.length_cons, Generated.XCM_ADDR_MAX,
    Generated.XCM_ADDR_MAX_PROTO_LEN, Generated.UX_NAME_MAX] at hl hn ⊢
  omega

theorem parseUx_ok_iff {proto s name : Bytes} {cap : Nat} :
    parseUx proto s cap = .ok name ↔
      colon ∉ proto ∧ proto.length ≤ Generated.XCM_ADDR_MAX_PROTO_LEN ∧ s = proto ++ colon :: name ∧
        1 ≤ name.length ∧ name.length ≤ Generated.UX_NAME_MAX ∧ name.length < cap ∧ hasSpace s = false := by
  constructor
  · fun_cases parseUx proto s cap with
    | case4 _ _ hpa h1 h2 =>  -- the `.ok` exit
      intro hp
      cases hp
      simp only [Bool.or_eq_true, ne_eq, Decidable.not_not, decide_eq_true_eq, beq_iff_eq, not_or] at h1
      obtain ⟨⟨rfl, h1b⟩, h1c⟩ := h1
      obtain ⟨e1, e2, _, e4, e5, _⟩ := protoAddrParse_ok_iff.mp hpa
      exact ⟨e2, e5, e1, Nat.pos_of_ne_zero h1c, Nat.le_of_not_lt h1b, Nat.lt_of_not_le h2, e4⟩
    | _ => nofun
  · rintro ⟨hc, hl, rfl, h1, h2, h3, hsp⟩
    have hpa := protoAddrParse_ok_iff.mpr ⟨rfl, hc, ux_length_le hl h2, hsp, hl, Nat.lt_succ_of_le hl⟩
    simp [parseUx, hpa, Nat.not_lt.mpr h2, Nat.ne_of_gt h1, Nat.not_le.mpr h3]  -- the parser on the canonical string

/-- an accepted ux/uxf address is `<proto>:<name>` without white space, the name 1..`UX_NAME_MAX` bytes and shorter than
the caller's buffer -/
theorem C12_parse_ux_sound (proto s name : Bytes) (cap : Nat)
    (hp : parseUx proto s cap = .ok name) :
    s = proto ++ colon :: name ∧ 1 ≤ name.length ∧ name.length ≤ Generated.UX_NAME_MAX ∧
      name.length < cap ∧ hasSpace s = false :=
  (parseUx_ok_iff.mp hp).2.2

/-- what is assumed of the C library's address text conversion -/
structure IpLaws (ip : IpText) : Prop where
  rt4 : ∀ a, a < 2 ^ 32 → ip.pton4 (ip.ntop4 a) = some a
  shape4 : ∀ a, a < 2 ^ 32 → ip.ntop4 a ≠ [] ∧ (ip.ntop4 a).length ≤ 15 ∧
    (∀ c ∈ ip.ntop4 a, isDigit c = true ∨ c = 46)
  rt6 : ∀ a, a.length = 16 → ip.pton6 (ip.ntop6 a) = some a
  shape6 : ∀ a, a.length = 16 → (ip.ntop6 a).length ≤ 45 ∧ ip.ntop6 a ≠ star ∧
    (∀ c ∈ ip.ntop6 a, isSpace c = false)

/-- hosts that `xcm_addr_make_*` is meant to be given -/
def HostWF (ip : IpText) : Host → Prop
  | .ip4 a => a < 2 ^ 32
  | .ip6 a => a.length = 16
  | .name s => dnsValid s = true ∧ ip.pton4 s = none ∧ (∀ c ∈ s, isLabelChar c = true ∨ c = 46)

theorem isLabel_props {c : UInt8} (h : isLabelChar c = true ∨ c = 46) :
    isSpace c = false ∧ c ≠ 91 ∧ c ≠ 42 := by
  simp only [isLabelChar, isSpace, Bool.or_eq_true, Bool.and_eq_true, decide_eq_true_eq,
    BEq.beq, UInt8.le_iff_toNat_le, ← UInt8.toNat_inj, ne_eq, Bool.or_eq_false_iff,
    Bool.and_eq_false_iff, decide_eq_false_iff_not, UInt8.toNat_ofNat] at h ⊢
  omega

theorem isLabelChar_of_isDigit {c : UInt8} (h : isDigit c = true) : isLabelChar c = true := by
  unfold isDigit at h
  simp [isLabelChar, h]

theorem hasSpace_eq_false {s : Bytes} : hasSpace s = false ↔ ∀ c ∈ s, isSpace c = false := by
  simp only [hasSpace, List.any_eq_false, Bool.not_eq_true]

theorem hasSpace_append (a b : Bytes) : hasSpace (a ++ b) = (hasSpace a || hasSpace b) := List.any_append

theorem hostParse_plain (ip : IpText) {s : Bytes} (hne : s ≠ [])
    (hch : ∀ c ∈ s, isLabelChar c = true ∨ c = 46) :
    hostParse ip s = match ip.pton4 s with
      | some a => some (.ip4 a)
      | none => if dnsValid s then some (.name s) else none := by
  obtain ⟨d, t, rfl⟩ := List.exists_cons_of_ne_nil hne
  obtain ⟨_, h91, h42⟩ := isLabel_props (hch d (by simp))
  simp [hostParse, h91, star, h42]
  rfl  -- two compilations of one `match`

theorem hostParse_bracketed (ip : IpText) (inner : Bytes) :
    hostParse ip ([91] ++ inner ++ [93]) =
      if inner = star then some (.ip6 zeros16) else (ip.pton6 inner).map .ip6 := by
  rw [hostParse, List.getLast?_concat, show (List.drop 1 _).dropLast = inner from List.dropLast_concat,
    if_neg nofun, if_pos (show List.head? _ = some _ from rfl), if_neg (by simp)]
  dsimp only
  cases ip.pton6 inner <;> rfl

theorem hostParse_hostStr (ip : IpText) (hl : IpLaws ip) (h : Host) (hw : HostWF ip h) :
    hostParse ip (hostStr ip h) = some h ∧ 1 ≤ (hostStr ip h).length ∧
      (hostStr ip h).length ≤ 253 ∧ hasSpace (hostStr ip h) = false := by
  cases h with
  | ip4 a =>
    obtain ⟨s1, s2, s3⟩ := hl.shape4 a hw
    have s3' : ∀ c ∈ ip.ntop4 a, isLabelChar c = true ∨ c = 46 := fun c hc =>
      (s3 c hc).imp_left isLabelChar_of_isDigit
    refine ⟨by rw [hostStr, hostParse_plain ip s1 s3', hl.rt4 a hw], List.length_pos_iff.mpr s1,
      Nat.le_trans s2 (by decide), hasSpace_eq_false.mpr fun c hc => (isLabel_props (s3' c hc)).1⟩
  | name s =>
    obtain ⟨hv, hp4, hch⟩ := hw
    have hne : s ≠ [] := by rintro rfl; simp [dnsValid] at hv
    have hlen : s.length ≤ 253 := Nat.le_of_not_lt fun h => by
      simp [dnsValid, Generated.DNS_MAX_LEN, h] at hv
    refine ⟨by rw [hostStr, hostParse_plain ip hne hch, hp4, hv]; rfl, List.length_pos_iff.mpr hne, hlen,
      hasSpace_eq_false.mpr fun c hc => (isLabel_props (hch c hc)).1⟩
  | ip6 a =>
    obtain ⟨s1, s2, s3⟩ := hl.shape6 a hw
    refine ⟨by rw [hostStr, hostParse_bracketed, if_neg s2, hl.rt6 a hw]; rfl, by simp [hostStr],
      by simp only [hostStr, List.length_append, List.length_singleton]; omega, ?_⟩
    rw [hostStr, hasSpace_append, hasSpace_append, hasSpace_eq_false.mpr s3]; rfl

theorem proto_props : ∀ p ∈ hostPortProtos ++ uxProtos, colon ∉ p ∧ p.length ≤ 4 ∧ hasSpace p = false := by
  decide

/-- for every transport, well-formed host and port: parsing what `make` produces yields the components -/
theorem C12_roundtrip (ip : IpText) (hl : IpLaws ip) (proto : Bytes) (hp : proto ∈ hostPortProtos)
    (h : Host) (hw : HostWF ip h) (port : Nat) (hport : port ≤ 65535) :
    hostPortParse ip proto (hostPortStr ip proto h port) = .ok (h, port) := by
  obtain ⟨hh1, hh2, hh3, hh4⟩ := hostParse_hostStr ip hl h hw
  obtain ⟨p1, p2, p3⟩ := proto_props _ (List.mem_append_left _ hp)
  have hdig := natToDec_digits port
  have hdl : (natToDec port).length ≤ 5 := natToDec_length_le (by decide) (Nat.lt_of_le_of_lt hport (by decide))
  have hs : hostPortStr ip proto h port = proto ++ colon :: (hostStr ip h ++ colon :: natToDec port) := by
    simp [hostPortStr]
  refine hostPortParse_ok_iff.mpr ⟨p1, Nat.le_trans p2 (by decide),
    ⟨_, _, hs, natToDec_ne_nil port, hdig, digitsVal_natToDec port, hh2,
      Nat.le_trans hh3 (by decide), hh1⟩, hport, ?_, ?_⟩
  · simp only [hs, List.length_append, List.length_cons, Generated.XCM_ADDR_MAX]; omega
  · simp only [hostPortStr, hasSpace_append, p3, hh4, hasSpace_eq_false.mpr fun c hc => isDigit_not_space (hdig c hc)]
    rfl

/-- ux/uxf: a name within the limits and free of white space comes back from its address -/
theorem C12_roundtrip_ux (proto : Bytes) (hp : proto ∈ uxProtos) (name : Bytes) (cap : Nat)
    (h1 : 1 ≤ name.length) (h2 : name.length ≤ Generated.UX_NAME_MAX) (h3 : name.length < cap)
    (hsp : ∀ c ∈ name, isSpace c = false) :
    parseUx proto (proto ++ [colon] ++ name) cap = .ok name := by
  obtain ⟨p1, p2, p3⟩ := proto_props _ (List.mem_append_right _ hp)
  rw [List.append_assoc]
  refine parseUx_ok_iff.mpr ⟨p1, Nat.le_trans p2 (by decide), rfl, h1, h2, h3, ?_⟩
  rw [hasSpace_append, hasSpace_append, p3, hasSpace_eq_false.mpr hsp]; rfl

theorem parseProto_eq_ok_iff {s p : Bytes} {cap : Nat} :
    parseProto s cap = .ok p ↔
      ∃ rest, protoAddrParse s cap (Generated.XCM_ADDR_MAX + 1) = .ok (p, rest) := by
  unfold parseProto
  cases protoAddrParse s cap (Generated.XCM_ADDR_MAX + 1) with
  | error e => simp [Except.map]
  | ok r => cases r; simp [Except.map]

theorem parseProto_ok_iff {s p : Bytes} (h : parseProto s Generated.XCM_ADDR_MAX_PROTO_LEN = .ok p) :
    ∃ rest, protoAddrParse s (Generated.XCM_ADDR_MAX_PROTO_LEN + 1) (Generated.XCM_ADDR_MAX + 1) = .ok (p, rest) := by
  obtain ⟨rest, hr⟩ := parseProto_eq_ok_iff.mp h
  -- the proto buffer's capacity matters only as a bound on the proto's length
  obtain ⟨e1, e2, e3, e4, e5, _⟩ := protoAddrParse_ok_iff.mp hr
  exact ⟨rest, protoAddrParse_ok_iff.mpr ⟨e1, e2, e3, e4, e5, Nat.lt_succ_of_le e5⟩⟩

theorem parseProto_of_parsed {s p rest : Bytes} (hp : p ∈ hostPortProtos ++ uxProtos)
    (hs : s = p ++ colon :: rest) (hlen : s.length ≤ Generated.XCM_ADDR_MAX)
    (hsp : hasSpace s = false) : parseProto s Generated.XCM_ADDR_MAX_PROTO_LEN = .ok p := by
  obtain ⟨p1, p2, _⟩ := proto_props _ hp
  have h4 : p.length < Generated.XCM_ADDR_MAX_PROTO_LEN := Nat.lt_of_le_of_lt p2 (by decide)
  exact parseProto_eq_ok_iff.mpr ⟨rest, protoAddrParse_ok_iff.mpr ⟨hs, p1, hlen, hsp, Nat.le_of_lt h4, h4⟩⟩

/-- `xcm_addr_is_valid(s)` holds exactly when one of the eight transports' parsers accepts `s` -/
theorem C12_is_valid_agrees (ip : IpText) (s : Bytes) :
    isValid ip s = true ↔
      (∃ p ∈ hostPortProtos, ∃ r, hostPortParse ip p s = .ok r) ∨
      (∃ p ∈ uxProtos, ∃ n, parseUx p s (Generated.XCM_ADDR_MAX + 1) = .ok n) := by
  -- at `Bytes`, so that `LawfulBEq Bytes` is looked for once
  have mem {l : List Bytes} {p : Bytes} : l.contains p = true ↔ p ∈ l := List.contains_iff_mem
  constructor
  · fun_cases isValid ip s with
    -- 2 a host:port transport accepts, 4 ux or uxf does
    | case2 p _ hc r hr => exact fun _ => .inl ⟨p, mem.mp hc, r, hr⟩
    | case4 p _ _ hc n hr => exact fun _ => .inr ⟨p, mem.mp hc, n, hr⟩
    | _ => nofun
  · rintro (⟨p, hp, ⟨h, port⟩, hr⟩ | ⟨p, hp, n, hr⟩)
    · obtain ⟨_, _, ⟨_, _, hs, _⟩, _, hlen, hsp⟩ := hostPortParse_ok_iff.mp hr
      rw [isValid, parseProto_of_parsed (List.mem_append_left _ hp) hs hlen hsp]
      simp only [mem.mpr hp, if_true, hr]
    · obtain ⟨_, hl, hs, _, hn, _, hsp⟩ := parseUx_ok_iff.mp hr
      rw [isValid, parseProto_of_parsed (List.mem_append_right _ hp) hs (hs ▸ ux_length_le hl hn) hsp]
      have hc1 := (by decide : ∀ p ∈ uxProtos, hostPortProtos.contains p = false) p hp
      simp only [hc1, Bool.false_eq_true, if_false, mem.mpr hp, if_true, hr]

theorem octet_natToDec (k : Nat) (h : k < 256) : octet (natToDec k) = some k := by
  have hd := natToDec_digits k
  have hv := digitsVal_natToDec k
  have hl : (natToDec k).length ≤ 3 := natToDec_length_le (by decide) (Nat.lt_trans h (by decide))
  cases hs : natToDec k with
  | nil => exact absurd hs (natToDec_ne_nil k)
  | cons d t =>
    rw [hs] at hd hv hl
    -- a leading zero could be dropped at no change of value, but no digit string is shorter than its value printed
    have hz : t ≠ [] → d ≠ 48 := by
      rintro ht rfl
      have := natToDec_digitsVal_length t ht fun c hc => hd c (List.mem_cons_of_mem _ hc)
      rw [show digitsVal t = k from hv, hs] at this
      exact Nat.not_succ_le_self _ this
    simp only [octet, List.isEmpty_cons, Nat.not_lt.mpr hl, List.all_eq_true.mpr hd, hv, Nat.not_lt.mpr (Nat.le_of_lt_succ h)]
    cases t with
    | nil => rfl
    | cons x r => simp [hz]

theorem natToDec_no_dot (k : Nat) : (46 : UInt8) ∉ natToDec k :=
  fun h => absurd (natToDec_digits k _ h) (by decide)

theorem splitOn_append {c : UInt8} (a rest : Bytes) (h : c ∉ a) :
    splitOn c (a ++ c :: rest) = a :: splitOn c rest := by
  induction a with
  | nil => simp [splitOn]
  | cons x t ih =>
    rw [List.mem_cons, not_or] at h
    simp [splitOn, Ne.symm h.1, ih h.2]

theorem splitOn_no_sep {c : UInt8} (a : Bytes) (h : c ∉ a) : splitOn c a = [a] := by
  induction a with
  | nil => rfl
  | cons x t ih =>
    rw [List.mem_cons, not_or] at h
    simp [splitOn, Ne.symm h.1, ih h.2]

/-- `IpLaws.rt4` of the executable IPv4 conversion -/
theorem ip4_roundtrip (a : Nat) (h : a < 2 ^ 32) : pton4 (ntop4 a) = some a := by
  rw [ntop4]
  simp only [List.append_assoc, List.cons_append, List.nil_append]
  rw [pton4, splitOn_append _ _ (natToDec_no_dot _), splitOn_append _ _ (natToDec_no_dot _),
    splitOn_append _ _ (natToDec_no_dot _), splitOn_no_sep _ (natToDec_no_dot _)]
  simp only [octet_natToDec _ (Nat.mod_lt _ (by decide)), bind, Option.bind, pure]
  congr 1
  -- the base-256 expansion of `a`, one digit at a time
  have e : a % (16777216 * 256) = _ := Nat.mod_mul
  rw [Nat.mod_eq_of_lt h, Nat.mod_mul (a := 65536) (b := 256), Nat.mod_mul (a := 256) (b := 256)] at e
  refine Eq.trans ?_ e.symm
  ac_rfl

/-- for the example; of IPv6 it knows `::1` alone -/
def exIp : IpText :=
  { ntop4 := ntop4, pton4 := pton4, ntop6 := fun _ => [58, 58, 49],
    pton6 := fun t => if t = [58, 58, 49] then some (List.replicate 15 0 ++ [1]) else none }

/-- for `decide` in the example -/
instance : DecidableEq (Except PErr (Host × Nat)) := fun a b =>
  match a, b with
  | .ok x, .ok y => if h : x = y then isTrue (by rw [h]) else isFalse (fun e => h (by cases e; rfl))
  | .error x, .error y => if h : x = y then isTrue (by rw [h]) else isFalse (fun e => h (by cases e; rfl))
  | .ok _, .error _ => isFalse (fun e => by cases e)
  | .error _, .ok _ => isFalse (fun e => by cases e)

/-- non-vacuity: an address of each kind is made, fits exactly and parses back -/
example :
    let ip := exIp
    hostPortMake ip pTcp (.ip4 2130706433) 80 17 = .ok (pTcp ++ [58] ++ ntop4 2130706433 ++ [58, 56, 48, 0]) ∧
    hostPortMake ip pTcp (.ip4 2130706433) 80 16 = .toolong 16 ∧
    hostPortParse ip pTcp (pTcp ++ [58] ++ ntop4 2130706433 ++ [58, 56, 48]) = .ok (.ip4 2130706433, 80) ∧
    hostPortParse ip pTls (pTls ++ [58, 91, 58, 58, 49, 93, 58, 48]) = .ok (.ip6 (List.replicate 15 0 ++ [1]), 0) ∧
    hostPortParse ip pTcp (pTcp ++ [58, 97, 46, 98, 58, 52, 50, 57, 52, 57, 54, 55, 50, 57, 55]) = .error .inval := by
  decide +kernel

end XcmModel.C12
