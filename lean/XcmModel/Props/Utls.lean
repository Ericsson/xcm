import XcmModel.Utls
/-!
  The UTLS transport (xcm_tp_utls.c) adds no data path of its own: it keeps the sub-transport contract on every ladder
  (C08), leaves a connection with exactly one sub-socket and hands every data-path call to it unchanged (C01, C03, C06,
  C17 of utls are those of that sub-transport), and passes the awaited condition to the sub-socket(s) that can make it
  true (C04, C16).
-/
namespace XcmModel.UtlsProps
open XcmModel.Utls

/-- what a sub-socket holds, as the sub-transport contract sees it -/
inductive L where
  | absent      -- never created, or destroyed
  | created
  | inited      -- init succeeded: holds (for TLS) a bell registration and a TCP sub-socket
  | live        -- connected / serving / accepted
  | released    -- init/connect/server/accept failed, or closed / cleaned up: only the memory is left
  deriving DecidableEq, Repr

/-- one call on the sub-socket `sub`; `none` = the contract is broken -/
def lstep (sub : Sub) (l : L) (c : Call) : Option L :=
  let on (s : Sub) (r : Option L) : Option L := if s = sub then r else some l
  match c with
  | .create s => on s (if l = .absent then some .created else none)
  | .init s ok => on s (if l = .created then some (if ok then .inited else .released) else none)
  | .connect s ok => on s (if l = .inited then some (if ok then .live else .released) else none)
  | .server s ok => on s (if l = .inited then some (if ok then .live else .released) else none)
  | .accept s ok => on s (if l = .inited then some (if ok then .live else .released) else none)
  | .close s => on s (if l = .inited ∨ l = .live then some .released else none)
  | .cleanup s => on s (if l = .inited ∨ l = .live then some .released else none)
  | .destroy s =>
    -- memory may go once the resources are gone; an initialised-only UX sub-socket holds none (ux_init only sets fields)
    on s (if l = .released ∨ (l = .inited ∧ sub = .ux) then some .absent else none)
  | .send s => on s (if l = .live then some l else none)
  | .receive s => on s (if l = .live then some l else none)
  | .finish s => on s (if l = .live then some l else none)
  | .getCnt s => on s (if l = .live then some l else none)
  | .localAddr s => on s (if l = .live then some l else none)
  | .update s _ => on s (if l = .live then some l else none)
  | .updateSrv _ _ => some l          -- a server sub-socket's update (the accepting server's, or a server's own): not checked

def lrun (sub : Sub) (l : L) (t : List Call) : Option L :=
  t.foldlM (lstep sub) l

def ledger (lu lt : L) (t : List Call) : Option (L × L) :=
  match lrun .ux lu t, lrun .tls lt t with
  | some a, some b => some (a, b)
  | _, _ => none

def both : St := { isConn := true, ux := true, tls := true }

/-! The ladders of connect, server and accept are proved alike: on each path of the operation the trace is a concrete
list, `rfl` evaluates its ledger and `simp` what the implications speak of.  `init` makes its two `createSub` calls on
every path, so there the script is split as far as they read it (one that ends early answers `ok`). -/

/-- whatever the sub-transports' init calls answer, `utls_init` keeps the contract; on failure nothing is held, unless it
was the UX init that failed: then only the UX sub-socket is destroyed and an initialised TLS one is left (`ux_init`
cannot fail in this code base) -/
theorem C08_utls_init_balanced (isConn : Bool) (a : List Ans) :
    ∃ lu lt, ledger .absent .absent (init isConn a).2.2.1 = some (lu, lt) ∧
      ((init isConn a).2.1 = .ok → lu = .inited ∧ lt = .inited ∧ (init isConn a).1.ux = true ∧ (init isConn a).1.tls = true) ∧
      ((init isConn a).2.1 ≠ .ok → lu = .absent ∧ (lt = .absent ∨ ((pop a).1 ≠ .ok ∧ lt = .inited))) := by
  rcases a with _ | ⟨_ | e, _ | ⟨_ | e2, r⟩⟩ <;> exact ⟨_, _, rfl, by simp [init, createSub, pop]⟩

/-- `utls_connect` keeps the contract; on success exactly the connected sub-socket is live and the other gone, on failure
nothing is held and both pointers are cleared -/
theorem C08_utls_connect_balanced (a : List Ans) :
    ∃ lu lt, ledger .inited .inited (connect both a).2.2.1 = some (lu, lt) ∧
      ((connect both a).2.1 = .ok →
         ((connect both a).1.ux = true ∧ (connect both a).1.tls = false ∧ lu = .live ∧ lt = .absent) ∨
         ((connect both a).1.ux = false ∧ (connect both a).1.tls = true ∧ lu = .absent ∧ lt = .live)) ∧
      ((connect both a).2.1 ≠ .ok → lu = .absent ∧ lt = .absent ∧ (connect both a).1.ux = false ∧ (connect both a).1.tls = false) := by
  fun_cases connect both a <;> exact ⟨_, _, rfl, by simp [both]⟩

/-- the TLS connection is attempted exactly when the UX connect answered ECONNREFUSED -/
theorem C13_utls_fallback_rule (a : List Ans) :
    (Call.connect .tls true ∈ (connect both a).2.2.1 ∨ Call.connect .tls false ∈ (connect both a).2.2.1) ↔
    (pop a).1 = .err ECONNREFUSED := by
  -- UX 1 connects, 2 fails with another errno; it is refused and TLS 3 connects, 4 fails
  fun_cases connect both a with
  | case1 | case2 => simp [*, deinitCalls]
  | case3 _ e he | case4 _ e he =>
    have : e = ECONNREFUSED := Decidable.of_not_not he
    simp [*]

/-- a failure of the UX connect other than ECONNREFUSED is the result of utls_connect, with its errno -/
theorem C06_utls_connect_errno (a : List Ans) (e : Nat) (h : (pop a).1 = .err e) (he : e ≠ ECONNREFUSED) :
    (connect both a).2.1 = .err e := by
  unfold connect
  rcases hp : pop a with ⟨x, r⟩
  rw [hp] at h
  subst h
  simp [he]

/-- `utls_connect` with an address that does not parse -/
theorem C08_utls_connect_badaddr_balanced :
    ledger .inited .inited (connectBadAddr both).2 = some (.absent, .absent) := by
  decide

/-- `utls_server`, fixed or kernel-allocated port: both sub-servers are live or nothing is held (F-08e) -/
theorem C08_utls_server_balanced (dyn : Bool) (a : List Ans) :
    let s0 : St := { isConn := false, ux := true, tls := true }
    ∃ lu lt, ledger .inited .inited (server s0 dyn a).2.2.1 = some (lu, lt) ∧
      ((server s0 dyn a).2.1 = .ok → lu = .live ∧ lt = .live ∧ (server s0 dyn a).1 = s0) ∧
      ((server s0 dyn a).2.1 ≠ .ok → lu = .absent ∧ lt = .absent ∧ (server s0 dyn a).1.ux = false ∧ (server s0 dyn a).1.tls = false) := by
  intro s0
  fun_cases server s0 dyn a <;> cases dyn <;> exact ⟨_, _, rfl, by simp⟩

/-- `utls_accept` (UX first, then TLS): on success exactly the accepted sub-socket is live, on failure nothing is held -/
theorem C08_utls_accept_balanced (srvCond : Nat) (a : List Ans) :
    ∃ lu lt, ledger .inited .inited (accept both srvCond a).2.2.1 = some (lu, lt) ∧
      ((accept both srvCond a).2.1 = .ok →
         ((accept both srvCond a).1.ux = true ∧ (accept both srvCond a).1.tls = false ∧ lu = .live ∧ lt = .absent) ∨
         ((accept both srvCond a).1.ux = false ∧ (accept both srvCond a).1.tls = true ∧ lu = .absent ∧ lt = .live)) ∧
      ((accept both srvCond a).2.1 ≠ .ok → lu = .absent ∧ lt = .absent) := by
  fun_cases accept both srvCond a <;> exact ⟨_, _, rfl, by simp [both]⟩

/-- `utls_close` / `utls_cleanup` of a connection (one live sub-socket) or a server (two) releases everything -/
theorem C08_utls_close_balanced (cleanup : Bool) :
    ledger .live .absent (close { isConn := true, ux := true, tls := false } cleanup).2 = some (.absent, .absent) ∧
    ledger .absent .live (close { isConn := true, ux := false, tls := true } cleanup).2 = some (.absent, .absent) ∧
    ledger .live .live (close { isConn := false, ux := true, tls := true } cleanup).2 = some (.absent, .absent) ∧
    ledger .inited .inited (close both cleanup).2 = some (.absent, .absent) := by
  cases cleanup <;> decide

/-- every data-path call of a connection is one call of the same kind on the active sub-socket, whose answer it returns:
utls adds, drops, reorders and alters nothing -/
theorem C01_utls_pure_delegation (s : St) (a : List Ans) :
    send s a = ((pop a).1, [.send (active s)], (pop a).2) ∧
    receive s a = ((pop a).1, [.receive (active s)], (pop a).2) ∧
    (s.isConn = true → finish s a = ((pop a).1, [.finish (active s)], (pop a).2)) ∧
    getCnt s = [.getCnt (active s)] := by
  refine ⟨rfl, rfl, fun h => ?_, rfl⟩
  simp [finish, h]

/-- one of a connection's two sub-sockets is left, as after a successful `connect` or `accept` -/
def okShape (s : St) : Prop := (s.ux = true ∧ s.tls = false) ∨ (s.ux = false ∧ s.tls = true)

theorem utls_active_is_the_one_left (s : St) (h : okShape s) :
    (active s = .ux ↔ s.ux = true) ∧ (active s = .tls ↔ s.tls = true) := by
  rcases h with ⟨h1, h2⟩ | ⟨h1, h2⟩ <;> simp [active, h1, h2]

/-- a connection passes its condition to the active sub-socket, a server to both sub-servers -/
theorem C04_utls_condition_passed_down (s : St) (cond : Nat) :
    (s.isConn = true → update s cond = [.update (active s) cond]) ∧
    (s.isConn = false → update s cond = [.updateSrv .ux cond, .updateSrv .tls cond]) := by
  constructor <;> intro h <;> simp [update, h]

/-- a server's xcm_finish asks both sub-servers and reports the first failure -/
theorem C04_utls_server_finish (s : St) (a : List Ans) (h : s.isConn = false) :
    ((pop a).1 = .ok → finish s a = ((pop (pop a).2).1, [.finish .ux, .finish .tls], (pop (pop a).2).2)) ∧
    (∀ e, (pop a).1 = .err e → finish s a = (.err e, [.finish .ux], (pop a).2)) := by
  unfold finish
  rcases hp : pop a with ⟨x, r⟩
  cases x <;> simp [h]

/-- every accept attempt is followed by a re-evaluation of that server sub-socket's registrations with the condition last
passed down: a second pending connection is not forgotten -/
theorem C04_utls_accept_reevaluates_server (srvCond : Nat) (a : List Ans) :
    Call.updateSrv .ux srvCond ∈ (accept both srvCond a).2.2.1 ∧
    ((pop a).1 ≠ .ok → Call.updateSrv .tls srvCond ∈ (accept both srvCond a).2.2.1) := by
  fun_cases accept both srvCond a <;> simp [*]

/-! non-vacuity: concrete ladders -/
example : (connect both [.err ECONNREFUSED, .ok]).2.1 = .ok ∧ (connect both [.err ECONNREFUSED, .ok]).1.tls = true := by decide
example : (connect both [.err 13]).2.1 = .err 13 := by decide
example : ledger .inited .inited (server { isConn := false, ux := true, tls := true } true [.ok, .err 98]).2.2.1 = some (.absent, .absent) := by decide
example : (init true [.ok, .err 24]).2.1 ≠ .ok ∧ ledger .absent .absent (init true [.ok, .err 24]).2.2.1 = some (.absent, .absent) := by decide
-- the ledger does reject a broken ladder: a live TLS sub-socket destroyed without close
example : ledger .inited .live [.destroy .tls] = none := by decide

end XcmModel.UtlsProps
