import XcmModel.Lemmas.Endpoint
import XcmModel.Lemmas.Ux
import XcmModel.Props.C02
/-!
# C17 — traffic counters tell the truth  (framing layer: tcp, tls; then ux/uxf, btcp, btls)
-/
namespace XcmModel.C17
open XcmModel.Wire XcmModel.Framing XcmModel.C01

/-- no step decreases any of the eight counters -/
theorem C17_monotone (e : Ep) (op : Op) : Cnts.le e.s.cnt (e.step op).s.cnt := by
  cases op with
  | send m ans => exact (send_frame e.s e.env m ans).2
  | receive cap ans => rw [Ep.step_receive e cap ans]; exact (receive_frame e.s e.env cap ans).2
  | finish ans fin => exact (finish_frame e.s e.env ans fin).2
  | arrive seg => simp only [Ep.step]; split <;> exact Cnts.le_refl _
  | eof | rxErr _ => exact Cnts.le_refl _

theorem sumLen_take_le (fulls : List Bytes) (caps : List Nat) :
    sumLen (List.zipWith (fun m c => m.take c) fulls caps) ≤ sumLen fulls := by
  fun_induction List.zipWith (fun (m : Bytes) c => m.take c) fulls caps with
  | case1 m ms c cs ih => exact Nat.add_le_add (List.length_take_le' c m) ih
  | case2 => exact Nat.zero_le _

/-- after any history: `to_app` = the successful receives and the bytes they returned (a truncated receive counts
what was really delivered), `from_lower` = the complete messages taken from the lower layer and their full sizes,
`from_app` = the messages buffered by `send` (the accepted ones and at most one buffered and then lost to a connection
failure) and their sizes, `to_lower` = `from_app` less the one frame still (partly) buffered -/
theorem C17_counters_exact (ops : List Op) :
    (Ep.init.run ops).s.cnt.toAppM = (Ep.init.run ops).returned.length ∧
    (Ep.init.run ops).s.cnt.toAppB = sumLen (Ep.init.run ops).returned ∧
    (Ep.init.run ops).s.cnt.fromLowerM = (Ep.init.run ops).fulls.length ∧
    (Ep.init.run ops).s.cnt.fromLowerB = sumLen (Ep.init.run ops).fulls ∧
    (∃ extra, extra.length ≤ 1 ∧ (extra ≠ [] → (Ep.init.run ops).env.txErr ≠ none) ∧
      (Ep.init.run ops).s.cnt.fromAppM = ((Ep.init.run ops).accepted ++ extra).length ∧
      (Ep.init.run ops).s.cnt.fromAppB = sumLen ((Ep.init.run ops).accepted ++ extra)) ∧
    (Ep.init.run ops).s.cnt.fromAppM =
      (Ep.init.run ops).s.cnt.toLowerM + (if (Ep.init.run ops).s.sbuf = [] then 0 else 1) ∧
    (Ep.init.run ops).s.cnt.fromAppB =
      (Ep.init.run ops).s.cnt.toLowerB + (if (Ep.init.run ops).s.sbuf = [] then 0 else rd32 (Ep.init.run ops).s.sbuf) := by
  obtain ⟨extra, hS, hex⟩ := sendInv_run ops sendInv_init
  have hR := rcnt_run ops recvInv_init ⟨rfl, rfl, rfl, rfl⟩
  refine ⟨hR.toAppM, hR.toAppB, hR.fromLowerM, hR.fromLowerB, ⟨extra, ?_, ?_, hS.cntM, hS.cntB⟩, hS.lowM, hS.lowB⟩
  · rcases hex with rfl | ⟨m, rfl, _, _⟩ <;> simp
  · intro hne
    rcases hex with rfl | ⟨m, rfl, hte, _⟩
    · exact absurd rfl hne
    · exact hte

/-- `from_app ≥ to_lower` and `from_lower ≥ to_app`, messages and bytes -/
theorem C17_order (ops : List Op) :
    (Ep.init.run ops).s.cnt.toLowerM ≤ (Ep.init.run ops).s.cnt.fromAppM ∧
    (Ep.init.run ops).s.cnt.toLowerB ≤ (Ep.init.run ops).s.cnt.fromAppB ∧
    (Ep.init.run ops).s.cnt.toAppM ≤ (Ep.init.run ops).s.cnt.fromLowerM ∧
    (Ep.init.run ops).s.cnt.toAppB ≤ (Ep.init.run ops).s.cnt.fromLowerB := by
  obtain ⟨a1, a2, a3, a4, _, a6, a7⟩ := C17_counters_exact ops
  have hR := recvInv_run ops recvInv_init
  refine ⟨a6 ▸ Nat.le_add_right _ _, a7 ▸ Nat.le_add_right _ _, ?_, ?_⟩
  · rw [a1, a3, hR.ret, List.length_zipWith]
    exact Nat.min_le_left _ _
  · rw [a2, a4, hR.ret]
    exact sumLen_take_le _ _

/-- a send of illegal size changes nothing at all; a send refused with EAGAIN leaves `from_app`, the buffered frame
and the receive-side counters as they were: it can only move the frame accepted before towards the lower layer -/
theorem C17_refused_counts_nothing (s : St) (env : Env) (m : Bytes) (ans : List SAns) (hw : SWf s) :
    ((m.length = 0 ∨ m.length > Generated.MBUF_MSG_MAX) →
      (send s env m ans).1 = s ∧ (send s env m ans).2.1 = env) ∧
    ((send s env m ans).2.2.1 = .err EAGAIN →
      (send s env m ans).1.cnt.fromAppM = s.cnt.fromAppM ∧ (send s env m ans).1.cnt.fromAppB = s.cnt.fromAppB ∧
      (send s env m ans).1.sbuf = s.sbuf ∧ RCntSame (send s env m ans).1 s) := by
  refine ⟨fun h => ?_, ?_⟩
  · rcases h with h | h <;> simp [send, h]
  refine send_cases (motive := fun r => r.2.2.1 = .err EAGAIN →
      r.1.cnt.fromAppM = s.cnt.fromAppM ∧ r.1.cnt.fromAppB = s.cnt.fromAppB ∧ r.1.sbuf = s.sbuf ∧ RCntSame r.1 s)
    s env m ans (fun _ _ => ⟨rfl, rfl, rfl, .refl s⟩) ?_ ?_
  · -- busy: nothing was counted, the frame is still there
    intro s1 env1 e ans1 _ _ h1 _
    have sp : TfsSpec s env (s1, env1, some e, ans1) := h1 ▸ tfs_spec ans s env hw
    have hc : s1.cnt = s.cnt := sp.cntSame (Or.inr nofun)
    exact ⟨by rw [hc], by rw [hc], (sp.fail e rfl).1, .of_recvHalf (tfs_frame h1).1⟩
  · -- buffered: never EAGAIN
    refine fun _ _ _ _ hres h => ?_
    rcases hres with ⟨_, rfl⟩ | ⟨e, _, hne, rfl⟩
    · cases h
    · cases h; exact absurd rfl hne

/-- when the sender has nothing buffered and the receiver has consumed every accepted message, the sender's
`to_lower`, the receiver's `from_lower` and the number and total size of the messages exchanged agree (`to_app` as
in `C17_counters_exact`) -/
theorem C17_idle_agreement (opsA opsB : List Op)
    (hflushed : (Ep.init.run opsA).s.sbuf = [])
    (hall : (Ep.init.run opsB).fulls = (Ep.init.run opsA).accepted) :
    (Ep.init.run opsA).s.cnt.toLowerM = (Ep.init.run opsA).accepted.length ∧
    (Ep.init.run opsA).s.cnt.toLowerB = sumLen (Ep.init.run opsA).accepted ∧
    (Ep.init.run opsA).s.cnt.fromAppM = (Ep.init.run opsA).s.cnt.toLowerM ∧
    (Ep.init.run opsA).s.cnt.fromAppB = (Ep.init.run opsA).s.cnt.toLowerB ∧
    (Ep.init.run opsB).s.cnt.fromLowerM = (Ep.init.run opsA).s.cnt.toLowerM ∧
    (Ep.init.run opsB).s.cnt.fromLowerB = (Ep.init.run opsA).s.cnt.toLowerB ∧
    (Ep.init.run opsB).s.cnt.toAppM = (Ep.init.run opsB).returned.length ∧
    (Ep.init.run opsB).s.cnt.toAppB = sumLen (Ep.init.run opsB).returned := by
  obtain ⟨extra, hS, hex⟩ := sendInv_run opsA sendInv_init
  have hR := rcnt_run opsB recvInv_init ⟨rfl, rfl, rfl, rfl⟩
  -- nothing is buffered, so no message was lost after buffering
  obtain rfl : extra = [] := hex.elim id (fun ⟨m, _, _, hne⟩ => absurd hflushed hne)
  rw [List.append_nil] at hS
  have hs1 := hS.lowM
  have hs2 := hS.lowB
  rw [if_pos hflushed, Nat.add_zero] at hs1 hs2
  exact ⟨hs1 ▸ hS.cntM, hs2 ▸ hS.cntB, hs1, hs2, by rw [hR.fromLowerM, hall, ← hS.cntM, hs1],
    by rw [hR.fromLowerB, hall, ← hS.cntB, hs2], hR.toAppM, hR.toAppB⟩

/-- non-vacuity: a truncating receive, a refused send, strict order with a frame pending -/
example :
    let e := Ep.init.run [.send [1, 2, 3] [.ok 2], .send [9] [], .arrive [0, 0, 0, 3, 7, 8, 9],
      .receive 2 []]
    e.results = [.ok, .err EAGAIN, .msg [7, 8] [7, 8, 9]] ∧
    e.s.cnt = { toAppB := 2, fromAppB := 3, toLowerB := 0, fromLowerB := 3,
                toAppM := 1, fromAppM := 1, toLowerM := 0, fromLowerM := 1 } := by
  decide

/-- no ux operation decreases a counter -/
theorem C17_ux_monotone (s : Ux.St) (m : Bytes) (k : Ux.KSend) (cap : Nat) (kr : Ux.KRecv) :
    Cnts.le s.cnt (Ux.send s m k).1.cnt ∧ Cnts.le s.cnt (Ux.receive s cap kr).1.cnt
    ∧ Cnts.le s.cnt (Ux.finish s).1.cnt := by
  refine ⟨?_, ?_, Cnts.le_refl _⟩
  -- one path of each (4) books something, the others return the state they were given
  · fun_cases Ux.send s m k with
    | case4 => simp [Cnts.le]
    | _ => exact Cnts.le_refl _
  · fun_cases Ux.receive s cap kr with
    | case4 => simp [Cnts.le]
    | _ => exact Cnts.le_refl _

/-- a failing ux send leaves the state, hence the counters, as it was (`C03_ux_failed_send_no_trace` again) -/
theorem C17_ux_refused_counts_nothing (s : Ux.St) (m : Bytes) (k : Ux.KSend) (e : Nat)
    (h : (Ux.send s m k).2.1 = .err e) : (Ux.send s m k).1 = s ∧ (Ux.send s m k).2.2 = none :=
  Ux.send_err s m k e h

/-- a truncated ux receive counts what was really delivered: `to_app` grows by `min len capacity`, `from_lower` by
the record's length (excludes F-17a, the untruncated length in `to_app`) -/
theorem C17_ux_truncated_counts_delivered (s : Ux.St) (cap : Nat) (r : Bytes) (hr : r ≠ []) :
    let s' := (Ux.receive s cap (.record r)).1
    s'.cnt.toAppB = s.cnt.toAppB + min r.length cap ∧ s'.cnt.fromLowerB = s.cnt.fromLowerB + r.length
    ∧ s'.cnt.toAppM = s.cnt.toAppM + 1 ∧ s'.cnt.fromLowerM = s.cnt.fromLowerM + 1
    ∧ (∀ p f, (Ux.receive s cap (.record r)).2 = .msg p f → p.length = min r.length cap) := by
  simp only [Ux.receive, if_neg (mt List.length_eq_zero_iff.mp hr)]
  -- the four counter equations have computed to `True`
  refine ⟨trivial, trivial, trivial, trivial, ?_⟩
  intro p f h
  split at h
  · cases h
  · cases h; rw [List.length_take, Nat.min_comm]

/-- ux, any history: exact values, order, and agreement when the kernel queue is empty -/
theorem C17_ux_counters_exact (steps : List Ux.Step) :
    let L := (({} : Ux.Link).run steps)
    L.a.cnt.fromAppM = L.accepted.length ∧ L.a.cnt.fromAppB = Ux.sumLen L.accepted
    ∧ L.a.cnt.toLowerM = L.a.cnt.fromAppM ∧ L.a.cnt.toLowerB = L.a.cnt.fromAppB
    ∧ L.b.cnt.toAppM = L.returned.length ∧ L.b.cnt.toAppB = Ux.sumLen L.returned
    ∧ L.b.cnt.fromLowerM = L.b.cnt.toAppM ∧ L.b.cnt.toAppB ≤ L.b.cnt.fromLowerB
    ∧ (L.chan = [] → L.a.cnt.toLowerM = L.b.cnt.fromLowerM ∧ L.a.cnt.toLowerB = L.b.cnt.fromLowerB) := by
  intro L
  have h : Ux.Inv L := Ux.inv_run steps _ Ux.inv_init
  refine ⟨h.aFromM, h.aFromB, by rw [h.aToM, h.aFromM], by rw [h.aToB, h.aFromB], by rw [h.bToM, h.ret_length], h.bToB,
    by rw [h.bFromM, h.bToM], ?_, ?_⟩
  · rw [h.bToB, h.bFromB, h.ret]
    exact sumLen_take_le _ _
  · intro hc
    have ha : L.accepted = L.fulls := by rw [h.acc, hc, List.append_nil]
    exact ⟨by rw [h.aToM, h.bFromM, ha], by rw [h.aToB, h.bFromB, ha]⟩

end XcmModel.C17

namespace XcmModel.C17btcp
open XcmModel.Btcp

/-- every history: from_app = to_lower = the bytes reported as accepted (a short write counts what was written, not
what was asked), from_lower = to_app = the bytes returned; by `C02.inv_run` the bytes the kernel took and gave -/
theorem C17_btcp_counters_exact (st : CState) (ops : List C02.Op) :
    let c := (C02.Conn.init st).run ops
    c.s.cnt.fromApp = c.accepted.length ∧ c.s.cnt.toLower = c.accepted.length ∧
    c.s.cnt.fromLower = c.returned.length ∧ c.s.cnt.toApp = c.returned.length :=
  cntInv_run ops (c := C02.Conn.init st) ⟨rfl, rfl, rfl, rfl⟩

/-- a refused or failing send counts nothing -/
theorem C17_btcp_refused_counts_nothing (s : St) (buf : Bytes) (est : List EstAns) (k : KSend) (e : Nat)
    (h : (send s buf est k).2 = .err e) : (send s buf est k).1.cnt = s.cnt := by
  rcases send_spec s buf est k with ⟨st, e', hs⟩ | ⟨n, _, _, hs⟩
  · rw [hs]
  · cases hs ▸ h

end XcmModel.C17btcp

namespace XcmModel.C17btls
open XcmModel.Btls

/-- every history: from_app counts every byte xcm_send reported as accepted (the retained ones from when they are
accepted), to_lower the bytes SSL_write took, to_app = from_lower the bytes returned; from_app exceeds to_lower by
exactly what is still retained -/
theorem C17_btls_counters_exact (auth : Bool) (ops : List Op) :
    let s := run { auth := auth } ops
    s.cnt.fromApp = s.accepted.length ∧ s.cnt.toLower = s.written.length ∧
    s.cnt.toApp = s.delivered.length ∧ s.cnt.fromLower = s.delivered.length ∧
    s.cnt.fromApp = s.cnt.toLower + s.pend.length := by
  have h := run_inv ops (init_inv auth)
  refine ⟨h.cntW.1, h.cntW.2, h.cntD.1, h.cntD.2, ?_⟩
  rw [h.cntW.1, h.cntW.2, h.acc, List.length_append]

/-- no btls step decreases a counter -/
theorem C17_btls_monotone {s : St} (hi : Inv s) (op : Op) :
    s.cnt.fromApp ≤ (step s op).cnt.fromApp ∧ s.cnt.toLower ≤ (step s op).cnt.toLower ∧
    s.cnt.toApp ≤ (step s op).cnt.toApp ∧ s.cnt.fromLower ≤ (step s op).cnt.fromLower := by
  have g := step_grows s op
  exact ⟨g.fromApp, g.toLower, g.toApp, g.fromLower⟩

/-- a send that fails - EAGAIN included - adds nothing to from_app -/
theorem C17_btls_refused_counts_nothing {s : St} (hi : Inv s) (buf : Bytes) (h : HAns) (ws : List WAns) (e : Nat)
    (hl : 0 < buf.length) (hr : (send s buf h ws).2.1 = .err e) : (send s buf h ws).1.cnt.fromApp = s.cnt.fromApp := by
  have hi' : Inv (send s buf h ws).1 := step_inv hi (.send buf h ws)
  rw [hi'.cntW.1, hi.cntW.1, (C02btls.C02_btls_send_accepts_prefix s buf h ws hl).2 e hr]

end XcmModel.C17btls

