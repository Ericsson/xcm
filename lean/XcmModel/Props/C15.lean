import XcmModel.Generated.Globals
/-!
# C15 — threads using different sockets do not interfere: the lock discipline of the library's process-wide state

`Generated/Globals.lean` is extracted from the library sources (extract/ext_globals.py): every mutable `static` variable
and every field of the structures behind one (the always-readable descriptor pool, the TLS context cache), with each
access site (file, variable, function, line, kind, lock) and how it is protected.
-/
namespace XcmModel.C15

/-- the two unprotected sites that are safe all the same: reads, after the lock is released, of a field that never
changes after creation (`fd`, `ssl_ctx`), in an entry on which the reading thread holds a counted reference -/
def pinnedReads : List (String × String) :=
  [("active_fd.fd", "active_fd_get"), ("cache_entry.ssl_ctx", "ctx_store_get_ctx")]

/-- every kind of `Generated.globalSites` but 0 protects: 1 library initialisation (constructors, before any thread can
use the library), 2 atomic access, 3 inside a critical section, 4 read of a variable written during initialisation only,
5 access to an object the function has just allocated, 6 the lock itself, passed to its lock/unlock/init call -/
def isProtected (k : Nat) : Bool := k != 0

def siteOk (s : String × String × String × Nat × Nat × String) : Bool :=
  isProtected s.2.2.2.2.1 || pinnedReads.contains (s.2.1, s.2.2.1)

/-- every access site is protected, or is one of the two `pinnedReads` -/
theorem C15_every_access_protected : Generated.globalSites.all siteOk = true := by decide +kernel

def locksOf (v : String) : List String :=
  (Generated.globalSites.filter (fun s => s.2.1 == v && s.2.2.2.2.1 == 3)).map (·.2.2.2.2.2)

def oneLock (v : String) : Bool :=
  match locksOf v with
  | [] => true
  | l :: t => t.all (· == l)

theorem locked_sites_agree :
    (Generated.globalSites.filter (·.2.2.2.2.1 == 3)).Pairwise (fun s s' => s.2.1 = s'.2.1 → s.2.2.2.2.2 = s'.2.2.2.2.2) := by
  decide +kernel

/-- the sites of one variable that are inside a critical section all hold the same lock -/
theorem C15_one_lock_per_variable : (Generated.globalSites.map (·.2.1)).all oneLock = true := by
  rw [List.all_eq_true]
  intro v _
  -- `locksOf v` is read off the locked sites of `v` in table order, so its head equals each later element
  have h : (locksOf v).Pairwise (· = ·) := by
    unfold locksOf
    rw [← List.filter_filter, List.pairwise_map, List.pairwise_filter]
    exact locked_sites_agree.imp fun hab ha hb => hab ((beq_iff_eq.1 ha).trans (beq_iff_eq.1 hb).symm)
  unfold oneLock
  cases hl : locksOf v with
  | nil => rfl
  | cons l t => exact List.all_eq_true.2 fun x hx => beq_iff_eq.2 ((List.pairwise_cons.1 (hl ▸ h)).1 x hx).symm

/-- no site meets the extractor's criterion: an atomic store, outside a lock, of a value that mentions what an earlier
atomic load of the same variable returned (load, test, store of a constant, as for `version_logged` in xcm.c, is none) -/
theorem C15_no_split_read_modify_write : Generated.nonAtomicRmw = [] := by decide

/-- the table covers the shared state the property names: socket ids, the shared wake-up descriptors, the TLS context
cache, the transport registry, the logging switch -/
theorem C15_table_covers :
    ["next_id", "active_fds", "cache", "protos", "console_enabled"].all
      (fun v => Generated.globalSites.any (fun s => s.2.1 == v)) = true := by decide +kernel

end XcmModel.C15
