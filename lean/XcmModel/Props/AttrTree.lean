import XcmModel.AttrTree
import XcmModel.Lemmas.List
/-! The flat attribute tree: what is found (by whole path, and by the walk of `xcm_attr_get`) against what is listed. -/
namespace XcmModel.AttrTreeProps
open XcmModel XcmModel.AttrPath XcmModel.AttrTree

theorem find_append_fresh (t : Tree) (p : Path) (n : Node)
    (hfresh : ∀ e ∈ t, e.1 ≠ p) : (t ++ [(p, n)]).find? (fun e => e.1 == p) = some (p, n) := by
  rw [List.find?_append, List.find?_eq_none.2 fun e he => mt eq_of_beq (hfresh e he)]
  simp

theorem lookup_add_value_same (t : Tree) (p : Path) (id : Nat) (r : Bool) (hp : p ≠ [])
    (hfresh : ∀ e ∈ t, e.1 ≠ p) : lookup (add t p (.value id r)) p = .value id r := by
  simp [lookup, add, hp, find_append_fresh t p _ hfresh]

theorem lookup_add_list_same (t : Tree) (p : Path) (hp : p ≠ []) (hfresh : ∀ e ∈ t, e.1 ≠ p) :
    ∃ n, lookup (add t p .list) p = .list n := by
  simp [lookup, add, hp, find_append_fresh t p _ hfresh]

def ProperPrefix (q p : Path) : Prop := q.length < p.length ∧ p.take q.length = q

/-- an add at `p` changes the lookup of no other path, except that the proper prefixes of `p` become or stay containers -/
theorem lookup_add_unrelated (t : Tree) (p q : Path) (n : Node) (hne : q ≠ p) (hnp : ¬ ProperPrefix q p) :
    lookup (add t p n) q = lookup t q := by
  have hf : (add t p n).find? (fun e => e.1 == q) = t.find? (fun e => e.1 == q) := by
    rw [add, List.find?_append, List.find?_singleton, if_neg (mt eq_of_beq hne.symm), Option.or_none]
  have hn : nexts (add t p n) q = nexts t q := by
    unfold nexts add
    simp [show ¬(q.length < p.length ∧ p.take q.length = q) from hnp]
  unfold lookup
  rw [hf, hn]

theorem allValues_add (t : Tree) (p : Path) (n : Node) : allValues (add t p n) = allValues t ++ allValues [(p, n)] :=
  List.filterMap_append

theorem allValues_add_readable (t : Tree) (p : Path) (id : Nat) :
    allValues (add t p (.value id true)) = allValues t ++ [(p, id)] :=
  allValues_add t p _

theorem allValues_add_unreadable (t : Tree) (p : Path) (id : Nat) :
    allValues (add t p (.value id false)) = allValues t :=
  (allValues_add t p _).trans (List.append_nil _)

theorem allValues_add_list (t : Tree) (p : Path) : allValues (add t p .list) = allValues t :=
  (allValues_add t p _).trans (List.append_nil _)

/-- every name `allValues` lists is found by `lookup`, as that very attribute (paths are distinct: an add onto an
existing key is refused by `ut_assert(!attr_node_dict_has_key)`) -/
theorem listed_is_found (t : Tree) (nd : (t.map (·.1)).Nodup) (hne : ∀ e ∈ t, e.1 ≠ [])
    (p : Path) (id : Nat) (h : (p, id) ∈ allValues t) : lookup t p = .value id true := by
  -- only a readable value node passes `allValues`' filter (the other kinds fall to `cases hq`): the one entry at `p`
  obtain ⟨⟨q, ⟨i, _ | _⟩ | _⟩, hm, hq⟩ := List.mem_filterMap.mp h <;> cases hq
  simp [lookup, hne _ hm, find?_of_nodup_map (·.1) nd hm (beq_self_eq_true p) fun _ h => eq_of_beq h]

theorem found_is_listed (t : Tree) (p : Path) (id : Nat) (h : lookup t p = .value id true) :
    (p, id) ∈ allValues t := by
  revert h
  -- of `lookup`'s six branches only 2, where `find?` hits a value node, answers `.value`
  fun_cases lookup t p with
  | case2 _ q i r hf =>
    intro h
    cases h
    obtain rfl : q = p := by simpa using List.find?_some hf
    exact List.mem_filterMap.mpr ⟨_, List.mem_of_find?_eq_some hf, rfl⟩
  | _ => nofun

theorem lookupWalk_sound (t : Tree) (p : Path) : lookupWalk t p = lookup t p ∨ lookupWalk t p = .none := by
  unfold lookupWalk; split
  · exact Or.inl rfl
  · exact Or.inr rfl

/-- what `xcm_attr_get` finds as a readable value, `xcm_attr_get_all` lists under that name -/
theorem walk_found_is_listed (t : Tree) (p : Path) (id : Nat) (h : lookupWalk t p = .value id true) :
    (p, id) ∈ allValues t := by
  rcases lookupWalk_sound t p with e | e
  · exact found_is_listed t p id (e ▸ h)
  · rw [e] at h; cases h

/-! non-vacuity: the tree of the harness's fixed prefix -/
example :
    let t : Tree := add (add (add (add [] [.key [97], .key [98]] (.value 1 true)) [.key [97], .key [108]] .list)
      [.key [97], .key [108], .index 0] (.value 2 true)) [.key [97], .key [108], .index 1, .key [120]] (.value 3 true)
    lookupWalk t [.key [97], .key [108], .index 1, .key [120]] = .value 3 true ∧
    lookupWalk t [.key [97], .key [108]] = .list 2 ∧ lookupWalk t [.key [97], .key [108], .index 2] = .none ∧
    lookupWalk t [.key [97], .index 0] = .none ∧ lookupWalk t [.key [97]] = .dict ∧
    allValues t = [([.key [97], .key [98]], 1), ([.key [97], .key [108], .index 0], 2), ([.key [97], .key [108], .index 1, .key [120]], 3)] := by
  decide +kernel

end XcmModel.AttrTreeProps
