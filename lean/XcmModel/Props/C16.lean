import XcmModel.Lemmas.BtlsUpdate
import XcmModel.Lemmas.Xpoll
import XcmModel.Btcp
import XcmModel.Ux
/-
  C16 - readiness is sound: one stable descriptor that is quiet when idle.

  K-epoll (assumed): an epoll fd is readable iff an entry of its interest list has a true event; the pool's eventfd(1)
  is never read, hence always readable.
  "One stable descriptor" is no theorem: the model's state has no epoll descriptor; `xcm_fd` returns `xpoll_get_fd`,
  set once in `xpoll_create` (unit_xpoll and sys_quiet sample it after every operation).
-/
namespace XcmModel.C16
open XcmModel.Xpoll

/-- the states of an xpoll instance under the operations the library performs.  The side conditions are what xpoll.c
asserts of its callers (`!has_fd`; `get_fd_reg`: the id names a registration; `get_bell_reg`: likewise, stated as "the
assertion is not hit"), and `fd ≠ ACTIVE`: only `update_active_fd` registers the pool's eventfd -/
inductive Reach : X → Prop where
  | init : Reach {}
  | fdAdd {x} (fd ev : Nat) : Reach x → fd ≠ ACTIVE → hasFd x fd = false → Reach (fdRegAdd x fd ev).1
  | fdMod {x} (idx ev fd old : Nat) : Reach x → x.slots[idx]? = some (some (fd, old)) → fd ≠ ACTIVE → Reach (fdRegMod x idx ev)
  | fdDel {x} (idx fd old : Nat) : Reach x → x.slots[idx]? = some (some (fd, old)) → fd ≠ ACTIVE → Reach (fdRegDel x idx)
  | bellAdd {x} (r : Bool) : Reach x → Reach (bellAdd x r).1
  | bellMod {x} (i : Nat) (r : Bool) : Reach x → (bellMod x i r).aborted = false → Reach (bellMod x i r)
  | bellDel {x} (i : Nat) : Reach x → (bellDel x i).aborted = false → Reach (bellDel x i)

theorem reach_good {x : X} (h : Reach x) : Good x := by
  induction h with
  | init => exact good_init
  | fdAdd fd ev _ hfd hf ih => exact good_fdRegAdd_user _ fd ev ih hfd hf
  | fdMod idx ev fd old _ hs hfd ih => exact good_fdRegMod_user _ idx ev fd old ih hs hfd
  | fdDel idx fd old _ hs hfd ih => exact good_fdRegDel_user _ idx fd old ih hs hfd
  | bellAdd r _ ih => exact good_bellAdd _ r ih
  | bellMod i r _ hna ih => exact good_bellMod _ i r ih hna
  | bellDel i _ hna ih => exact good_bellDel _ i ih hna

/-- **the kernel's interest list is exactly the registrations with a non-zero event mask**: after any history,
reg_epoll_mod's ADD/MOD/DEL decisions have left no stale or missing entry -/
theorem C16_kernel_matches_registrations {x : X} (h : Reach x) (fd ev : Nat) :
    (fd, ev) ∈ x.kernel ↔ ev ≠ 0 ∧ ∃ i : Nat, x.slots[i]? = some (some (fd, ev)) := by
  have hk := (reach_good h).kinv
  exact ⟨hk.sound (fd, ev), fun ⟨hne, i, hi⟩ => hk.complete i fd ev hi hne⟩

/-- **the always-readable descriptor is watched for input exactly while some bell rings**, and held exactly while bells
exist (`update_active_fd`; `Good.count`: `numBells` counts the bells in the table) -/
theorem C16_active_fd_iff_bell {x : X} (h : Reach x) :
    ((ACTIVE, EPOLLIN) ∈ x.kernel ↔ anyRinging x = true) ∧ (x.active.isSome = true ↔ x.numBells > 0) := by
  have hg := reach_good h
  exact ⟨(hg.active_kernel EPOLLIN).trans (and_iff_left rfl), hg.held⟩

/-- when no bell rings and no registered descriptor of the socket has a requested event that is true, the socket's fd is
not readable -/
theorem C16_quiet_when_idle {x : X} (h : Reach x) (ready : Nat → Nat → Bool)
    (hb : anyRinging x = false)
    (hfd : ∀ (i fd ev : Nat), x.slots[i]? = some (some (fd, ev)) → fd ≠ ACTIVE → ev = 0 ∨ ready fd ev = false) :
    readable x ready = false := by
  cases hr : readable x ready with
  | false => rfl
  | true =>
    rcases ((reach_good h).readable_iff ready).mp hr with hb' | ⟨i, fd, ev, hi, hf, hne, hr'⟩
    · rw [hb] at hb'; cases hb'
    · rcases hfd i fd ev hi hf with h0 | h0
      · exact absurd h0 hne
      · rw [h0] at hr'; cases hr'

/-- a ringing bell, or a registered descriptor with a requested event that is true, makes the socket's fd readable: no
wake-up is lost at this layer -/
theorem C16_readable_when_met {x : X} (h : Reach x) (ready : Nat → Nat → Bool) :
    (anyRinging x = true → readable x ready = true)
    ∧ (∀ (i fd ev : Nat), x.slots[i]? = some (some (fd, ev)) → fd ≠ ACTIVE → ev ≠ 0 → ready fd ev = true → readable x ready = true) := by
  have hiff := (reach_good h).readable_iff ready
  exact ⟨fun hr => hiff.mpr (Or.inl hr), fun i fd ev hi hf hne hr => hiff.mpr (Or.inr ⟨i, fd, ev, hi, hf, hne, hr⟩)⟩

/-- btcp, established: no bell, and the data descriptor registered for exactly what is awaited: nothing for 0, EPOLLIN
alone for RECEIVABLE -/
theorem C16_btcp_ready_events (cond : Nat) (q : Bool) :
    Btcp.connUpdate .ready cond q =
      (false, some ((if cond &&& Generated.XCM_SO_SENDABLE ≠ 0 then 4 else 0) ||| (if cond &&& Generated.XCM_SO_RECEIVABLE ≠ 0 then 1 else 0)))
    ∧ Btcp.connUpdate .ready 0 q = (false, some 0)
    ∧ Btcp.connUpdate .ready Generated.XCM_SO_RECEIVABLE q = (false, some 1) :=
  ⟨rfl, rfl, rfl⟩

/-- btcp, terminal states: the bell rings whatever the condition -/
theorem C16_btcp_terminal_rings (cond : Nat) (q : Bool) (e : Nat) :
    (Btcp.connUpdate .closed cond q).1 = true ∧ (Btcp.connUpdate (.bad e) cond q).1 = true :=
  ⟨rfl, rfl⟩

/-- a server socket awaits connections with EPOLLIN on the listening descriptor alone, and asks for nothing when
ACCEPTABLE is not awaited -/
theorem C16_server_events :
    Btcp.serverUpdate Generated.XCM_SO_ACCEPTABLE = 1 ∧ Btcp.serverUpdate 0 = 0
    ∧ Ux.serverEvent Generated.XCM_SO_ACCEPTABLE = Ux.EPOLLIN ∧ Ux.serverEvent 0 = 0 := by
  decide

/-- ux connections: condition 0 asks for nothing, RECEIVABLE for EPOLLIN only -/
theorem C16_ux_events : Ux.connEvent 0 = 0 ∧ Ux.connEvent Generated.XCM_SO_RECEIVABLE = Ux.EPOLLIN := by
  decide

/-- non-vacuity: a data descriptor awaiting input and two bells, one ringing, then silenced -/
example :
    let x := run [.fdAdd 3 1, .bellAdd false, .bellAdd true, .bellMod 1 false]
    Reach x ∧ readable x (fun _ _ => false) = false ∧ readable (run [.fdAdd 3 1, .bellAdd false, .bellAdd true]) (fun _ _ => false) = true := by
  refine ⟨?_, rfl, rfl⟩
  have h1 : Reach (fdRegAdd {} 3 1).1 := Reach.fdAdd 3 1 Reach.init (by decide) rfl
  -- left to the unifier, `run` is evaluated instead of unfolded
  dsimp only [run, List.foldl, step]
  exact Reach.bellMod 1 false (Reach.bellAdd true (Reach.bellAdd false h1)) rfl

end XcmModel.C16

namespace XcmModel.C16btls
open XcmModel.Btls

/-- `conn_update` of xcm_tp_btls.c, condition 0 awaited on a ready connection with nothing retained: no bell, nothing
asked of the TCP socket below -/
theorem C16_btls_idle_silent (s : St) (hs : s.state = .ready) (hp : s.pend = []) (p : Bool) :
    connUpdate s 0 p = (false, 0, true, false) := by
  unfold connUpdate connUpdateCore
  simp [hs, hp]

/-- condition 0 awaited with output retained: no bell; the TCP socket below is watched only for what the flush needs -/
theorem C16_btls_idle_flush_only (s : St) (hs : s.state = .ready) (hp : s.pend ≠ []) (p : Bool) :
    connUpdate s 0 p = (false, (if s.pendWants ≠ 0 then s.pendWants else SENDABLE), true, false) := by
  unfold connUpdate connUpdateCore
  simp [hs, hp]

/-- RECEIVABLE awaited after xcm_receive has reported EAGAIN (OpenSSL wanted to read), nothing retained: no bell; the
TCP socket below is watched for input only -/
theorem C16_btls_quiet_after_eagain (s : St) (cap : Nat) (h : HAns) (ws : List WAns)
    (hs : (tryFinishHandshake s h).state = .ready) (hp : (tryFinishHandshake s h).pend = []) :
    let r := receive s cap h ws (.ev .wantRead)
    r.2.1 = .err EAGAIN ∧ connUpdate r.1 RECEIVABLE false = (false, RECEIVABLE, true, false) := by
  rw [(receive_ready rfl hs cap _ (flushAll_idle hp ws)).2 fun t => t.not_ready hs, readStep_ev]
  simp [hs, hp, failed, stopRes, processSslEvent, connUpdate, connUpdateCore, RECEIVABLE, Generated.XCM_SO_RECEIVABLE]

/-- RECEIVABLE awaited after an EAGAIN receive whose flush of retained output (one SSL_write) is blocked too: no bell;
the TCP socket below is watched for input and for what the flush needs.  No wake-up without work: excludes the spin of
F-16a on this path -/
theorem C16_btls_quiet_after_eagain_retained (s : St) (cap : Nat) (hs : s.state = .ready) (hp : s.pend ≠ [])
    (e : SslEv) (he : e = .wantRead ∨ e = .wantWrite) :
    let r := receive s cap (.done .ok) [.ev e] (.ev .wantRead)
    r.2.1 = .err EAGAIN ∧ r.2.2.2 = 1 ∧ r.1.pend = s.pend ∧
    connUpdate r.1 RECEIVABLE false = (false, RECEIVABLE ||| (if e = .wantRead then RECEIVABLE else SENDABLE), true, false) := by
  have hr : (failed s SENDABLE (some e)).state = .ready := by rcases he with rfl | rfl <;> exact hs
  rw [(receive_ready (tfh_idle (ready_ne_hs hs) _) hs cap _ (flushAll_blocked hp e [] fun t => t.not_ready hr)).2
    fun t => t.not_ready hr, readStep_ev]
  rcases he with rfl | rfl <;>
    simp [hs, hp, failed, stopRes, processSslEvent, connUpdate, connUpdateCore, RECEIVABLE, Generated.XCM_SO_RECEIVABLE]

/-- a blocked SSL_write does not refuse the send: xcm_send accepts (up to a record of) the bytes and retains them; they
keep the TCP socket watched (`C04_btls_retained_output_watched`).  Excludes the refused-send spin of F-16a. -/
theorem C16_btls_blocked_send_is_accepted (s : St) (buf : Bytes) (h : HAns) (ws : List WAns) (e : SslEv)
    (hs : (tryFinishHandshake s h).state = .ready) (hp : (tryFinishHandshake s h).pend = [])
    (hw : nextW ws = (.ev e, [])) (hb : buf ≠ [])
    (hr : (processSslEvent { (tryFinishHandshake s h) with sslCondition := 0, sslWants := 0 } SENDABLE e).state = .ready) :
    (send s buf h ws).2.1 = .n (min buf.length MAX_PENDING) [] ∧
    (send s buf h ws).1.pend = buf.take MAX_PENDING := by
  unfold send
  generalize tryFinishHandshake s h = s1 at hs hp hr
  simp only [hs, show flushPending (s1.pend.length + 1) s1 ws = _ from flushAll_idle hp ws, hw] at hr ⊢
  simp [hr, hb, Nat.min_comm]

/-- the bell of a ready connection rings only if something is awaited and decrypted data is pending for a RECEIVABLE
waiter, or OpenSSL has reported no blocked operation, or one for another condition than the awaited (`Btls.Rings` is
the exact guard) -/
theorem C16_btls_bell_reason (s : St) (hs : s.state = .ready) (cond : Nat) (hp : Bool)
    (hb : (connUpdate s cond hp).1 = true) :
    cond ≠ 0 ∧ ((cond &&& RECEIVABLE ≠ 0 ∧ hp = true) ∨ s.sslCondition = 0 ∨ cond ≠ s.sslCondition) := by
  rcases update_ready hs cond hp with ⟨g, _⟩ | ⟨_, e⟩
  · exact ⟨g.1, g.2.imp_right (Or.imp_right And.left)⟩
  · rw [e] at hb; cases hb

end XcmModel.C16btls
