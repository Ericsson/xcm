import XcmModel.TcpOpts
/-
C11 - attribute values take effect (TCP options part; the generic set path is C10's treeSet).

Assumption (environment): setsockopt succeeds and the kernel then has the value.
-/
namespace XcmModel.C11
open XcmModel XcmModel.TcpOpts

theorem optsEqual_iff (a b : Opts) : optsEqual a b = true ↔ a = b := by
  cases a; cases b
  simp [optsEqual, and_assoc]

/-- of a connection that has its kernel socket: the kernel has the stored options -/
def InForce (s : St) : Prop := s.hasFd = true ∧ s.applied = some s.desired

theorem get_set (o : Opts) (f : Field) (v : Int) : (o.set f v).get f = v := by
  cases f <;> rfl

theorem set_set (o : Opts) (f : Field) (v : Int) : (o.set f v).set f v = o.set f v := by
  cases f <;> rfl

def change (s : St) (g : Opts → Opts) : St :=
  { s with desired := g s.desired, applied := if s.hasFd then s.applied.map g else s.applied }

theorem setKeepalive_cases (s : St) (v : Bool) :
    s.desired.keepalive = v ∧ setKeepalive s v = (s, .ok) ∨
    setKeepalive s v = (change s fun a => { a with keepalive := v }, .ok) := by
  fun_cases setKeepalive s v with
  | case1 h => exact .inl ⟨h, rfl⟩
  | _ => right; simp only [change, *]; rfl  -- the two branches on `hasFd`, which `change` tests again

theorem setField_cases (s : St) (f : Field) (v : Int) :
    s.desired.get f = v ∧ setField s f v = (s, .ok) ∨ setField s f v = (s, .einval) ∨
    setField s f v = (change s fun a => a.set f v, .ok) := by
  fun_cases setField s f v with
  | case1 h => exact .inl ⟨h, rfl⟩
  | case2 => exact .inr (.inl rfl)
  | _ => right; right; simp only [change, *]; rfl

/-- an accepted set is what a later get reports; a refused one changes nothing -/
theorem C11_readback_field (s : St) (f : Field) (v : Int) :
    ((setField s f v).2 = .ok → (setField s f v).1.desired.get f = v)
    ∧ ((setField s f v).2 = .einval → (setField s f v).1 = s) := by
  -- unchanged, refused or `change`d; then `get_set` reads the field back
  rcases setField_cases s f v with ⟨h, e⟩ | e | e <;> simp [*, change, get_set]

/-- keepalive is read back too, and the set is always accepted -/
theorem C11_readback_keepalive (s : St) (v : Bool) :
    (setKeepalive s v).2 = .ok ∧ (setKeepalive s v).1.desired.keepalive = v := by
  rcases setKeepalive_cases s v with ⟨h, e⟩ | e <;> simp [*, change]

theorem applyOps_ind {P : St → Prop} (hP : ∀ s g, P s → P (change s g)) (ops : List Op) (s : St) (h : P s) :
    P (applyOps s ops) :=
  List.foldlRecOn ops applyOp h fun s h op _ => by
    cases op with
    | keepalive v =>
      rcases setKeepalive_cases s v with ⟨_, e⟩ | e <;> simp only [applyOp, e]
      · exact h
      · exact hP _ _ h
    | field f v =>
      rcases setField_cases s f v with ⟨_, e⟩ | e | e <;> simp only [applyOp, e]
      · exact h
      · exact h
      · exact hP _ _ h

theorem applyOps_snapshot (ops : List Op) (s : St) : (applyOps s ops).snapshot = s.snapshot :=
  applyOps_ind (P := fun s' => s'.snapshot = s.snapshot) (fun _ _ h => h) ops s rfl

theorem applyOps_inForce (ops : List Op) (s : St) (h : InForce s) : InForce (applyOps s ops) :=
  applyOps_ind (fun s g h => ⟨h.1, by simp [change, h.1, h.2]⟩) ops s h

/-- establishment brings the current options into force, whatever was set while connecting -/
theorem finishConnect_inForce (s : St) (snap : Opts) (h : s.snapshot = some snap) : InForce (finishConnect s) := by
  -- the snapshot stays in force only where `tcp_opts_equal` says it is the current options: the test must be exact
  simp only [finishConnect, h, optsEqual_iff]
  exact ⟨rfl, congrArg some (ite_eq_right_iff.mpr Eq.symm)⟩

/-- TCP keepalive and user-timeout settings are in force on the connection whether given before (attribute map of
xcm_connect_a), during (after tconnect took its snapshot) or after establishment -/
theorem C11_tcp_opts_in_force (pre during post : List Op) :
    InForce (lifecycle pre during post) :=
  applyOps_inForce post _ (finishConnect_inForce _ _ (applyOps_snapshot during _))

/-- accepted connections start with the options in force and keep them so -/
theorem C11_tcp_opts_in_force_accepted (pre post : List Op) :
    InForce (applyOps (accept (applyOps {} pre)) post) :=
  applyOps_inForce post _ ⟨rfl, rfl⟩

/-- non-vacuity: user_timeout changed while connecting (the F-11a scenario) and keepalive after -/
example : (lifecycle [.field .time 5] [.field .userTimeout 7] [.keepalive false]).applied
    = some { keepalive := false, time := 5, interval := 1, count := 3, userTimeout := 7 } := by decide

end XcmModel.C11
