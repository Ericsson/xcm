import XcmModel.Relay
/-! # C20 — xcmrelay is transparent (tools/xcmrelay/xrelay.c) -/
namespace XcmModel.C20
open XcmModel XcmModel.Relay

def FInv (f : Fwd) : Prop := f.received.flatten = f.passed.flatten ++ f.buf

/-- `FInv` message by message, for a messaging transport -/
def MInv (f : Fwd) : Prop := f.received = f.passed ++ (if f.buf.isEmpty then [] else [f.buf])

def Live (r : Relay) : Prop := r.draining = none ∧ r.terminated = none

/-- what `xfwd_active` does to its forwarder and to the relay, by the outcome of its XCM call (the calls left out) -/
inductive Active (r : Relay) (f : Fwd) (conn : Nat) (a : Ans) : Fwd → Relay → Prop
  /-- `xcm_receive` on the source gave data to an empty forwarder -/
  | recv (bs : Bytes) : f.buf = [] → a = .data bs →
      Active r f conn a { f with buf := bs, received := f.received ++ [bs] } (awaitOutput r f)
  /-- `xcm_send` on the destination accepted the first `k` bytes held (all, unless on a byte stream) -/
  | sent (k : Nat) : f.buf ≠ [] → (r.bytestream = false → k = f.buf.length) →
      Active r f conn a { f with buf := f.buf.drop k, passed := f.passed ++ [f.buf.take k] }
        (if (f.buf.drop k).isEmpty then awaitInput r f else r)
  /-- `xcm_receive` on the source of an empty forwarder reported end of stream -/
  | eof : f.buf = [] → conn = f.src → a = .eof → Active r f conn a f { r with terminated := some 0, draining := some f.dst }
  /-- EAGAIN or an answer that is not the call's own (`t = r.terminated`), or an error that ends the relay -/
  | mayEnd (t : Option Int) : Active r f conn a f { r with terminated := t }

theorem active_does (r : Relay) (f : Fwd) (conn : Nat) (a : Ans) :
    Active r f conn a (active r f conn a).1 (active r f conn a).2.1 := by
  -- of sixteen paths: 1 data and 2 end of stream to an empty forwarder, 9 `ok` on the destination of a full one
  fun_cases active r f conn a with
  | case1 he _ bs => exact .recv bs (List.isEmpty_iff.mp he) rfl
  | case2 he hc => exact .eof (List.isEmpty_iff.mp he) hc rfl
  | case9 he => exact .sent _ (mt List.isEmpty_iff.mpr he) fun h => if_neg (ne_true_of_eq_false h)
  | _ => exact .mayEnd _

/-- a relay less its awaited conditions, all that `addCond`, `delCond` and what is built from them change -/
def rest (r : Relay) : Relay := { r with cond1 := 0, cond2 := 0 }

@[simp] theorem rest_addCond (r : Relay) (c b : Nat) : rest (addCond r c b) = rest r := by unfold addCond; split <;> rfl
@[simp] theorem rest_delCond (r : Relay) (c b : Nat) : rest (delCond r c b) = rest r := by unfold delCond; split <;> rfl
theorem rest_awaitInput (r : Relay) (f : Fwd) : rest (awaitInput r f) = rest r := by simp only [awaitInput, rest_addCond, rest_delCond]
theorem rest_awaitOutput (r : Relay) (f : Fwd) : rest (awaitOutput r f) = rest r := by simp only [awaitOutput, rest_addCond, rest_delCond]
theorem rest_stopAll (r : Relay) : rest (stopAll r) = rest r := by simp only [stopAll, rest_delCond]

structure SameFwds (r' r : Relay) : Prop where
  f0 : r'.f0 = r.f0
  f1 : r'.f1 = r.f1
  bytestream : r'.bytestream = r.bytestream

theorem SameFwds.of_rest {r' r : Relay} (h : rest r' = rest r) : SameFwds r' r :=
  ⟨(congrArg Relay.f0 h :), (congrArg Relay.f1 h :), (congrArg Relay.bytestream h :)⟩

section
variable {r r' : Relay} {f f' : Fwd} {conn : Nat} {a : Ans}

theorem Active.finv (h : Active r f conn a f' r') (hf : FInv f) : FInv f' := by
  unfold FInv at hf ⊢
  cases h with
  | recv bs hb _ => rw [List.flatten_append, hf, hb, List.append_nil, List.flatten_singleton]
  | sent k _ _ => rw [List.flatten_append, List.flatten_singleton, List.append_assoc, List.take_append_drop, hf]
  | eof | mayEnd => exact hf

theorem Active.minv (h : Active r f conn a f' r') (hr : r.bytestream = false) (hd : ∀ bs, a = .data bs → bs ≠ [])
    (hf : MInv f) : MInv f' := by
  unfold MInv at hf ⊢
  cases h with
  | recv bs hb ha => simp [hf, hb, hd bs ha]
  | sent k hb hk => simp [hf, hb, hk hr]  -- `k` is the length: the whole message goes
  | eof | mayEnd => exact hf

theorem Active.ends (h : Active r f conn a f' r') : f'.src = f.src ∧ f'.dst = f.dst := by
  cases h <;> exact ⟨rfl, rfl⟩

theorem Active.sameFwds (h : Active r f conn a f' r') : SameFwds r' r := by
  cases h with
  | recv => exact .of_rest (rest_awaitOutput r f)
  | sent => split; exact .of_rest (rest_awaitInput r f); exact ⟨rfl, rfl, rfl⟩
  | eof | mayEnd => exact ⟨rfl, rfl, rfl⟩

theorem Active.draining (h : Active r f conn a f' r') :
    r'.draining = r.draining ∨ f.buf = [] ∧ conn = f.src ∧ a = .eof := by
  cases h with
  | recv => exact .inl (congrArg Relay.draining (rest_awaitOutput r f) :)
  | sent => split; exact .inl (congrArg Relay.draining (rest_awaitInput r f) :); exact .inl rfl
  | eof hb hc ha => exact .inr ⟨hb, hc, ha⟩
  | mayEnd => exact .inl rfl

theorem Active.conds (h : Active r f conn a f' r') (hd : ∀ bs, a = .data bs → bs ≠ []) :
    f'.buf.isEmpty = f.buf.isEmpty ∧ r'.cond1 = r.cond1 ∧ r'.cond2 = r.cond2 ∨
    f'.buf.isEmpty = false ∧ r' = awaitOutput r f ∨ f'.buf.isEmpty = true ∧ r' = awaitInput r f := by
  cases h with
  | recv bs _ ha => exact .inr (.inl ⟨List.isEmpty_eq_false_iff.mpr (hd bs ha), rfl⟩)
  | sent k hb _ =>
    cases hk : (f.buf.drop k).isEmpty with
    | true => exact .inr (.inr ⟨rfl, rfl⟩)
    | false => exact .inl ⟨(List.isEmpty_eq_false_iff.mpr hb).symm, rfl, rfl⟩
  | eof | mayEnd => exact .inl ⟨rfl, rfl, rfl⟩

end

theorem active_finv (r : Relay) (f : Fwd) (conn : Nat) (a : Ans) (h : FInv f) : FInv (active r f conn a).1 :=
  (active_does r f conn a).finv h

theorem active_minv (r : Relay) (hr : r.bytestream = false) (f : Fwd) (conn : Nat) (a : Ans) (hd : ∀ bs, a = .data bs → bs ≠ [])
    (h : MInv f) : MInv (active r f conn a).1 :=
  (active_does r f conn a).minv hr hd h

/-- a source's end of stream is acted on only by a forwarder that holds nothing: all it received was accepted by
`xcm_send` on the other leg, which the relay then drains -/
theorem C20_eof_only_when_empty (r : Relay) (f : Fwd) (conn : Nat) (a : Ans) (hf : FInv f) (hl : r.draining = none)
    (hc : (active r f conn a).2.1.draining = some f.dst) :
    a = .eof ∧ conn = f.src ∧ f.buf = [] ∧ f.received.flatten = f.passed.flatten := by
  rcases (active_does r f conn a).draining with h | ⟨hb, hcs, ha⟩
  · rw [h, hl] at hc; cases hc
  · exact ⟨ha, hcs, hb, by rw [FInv, hb, List.append_nil] at hf; exact hf⟩

theorem drainTry_eq (r : Relay) (c : Nat) (a : Ans) :
    drainTry r c a =
      if a = .err EAGAIN then (r, [.finish c]) else ({ r with terminated := some 0, draining := none }, [.finish c, .term 0]) := by
  -- 1 EAGAIN, 2 another error, 3 no error
  fun_cases drainTry r c a with
  | case1 => rfl
  | case2 e he => exact (if_neg fun h => he (Ans.err.inj h)).symm
  | case3 a hne => exact (if_neg (hne _)).symm

theorem drainTry_not_live (r : Relay) (c : Nat) (a : Ans) (hd : r.draining = some c) :
    ¬ Live (drainTry r c a).1 ∧ SameFwds (drainTry r c a).1 r := by
  rw [drainTry_eq]
  split
  · exact ⟨fun hl => (nomatch hd.symm.trans hl.1), rfl, rfl, rfl⟩
  · exact ⟨fun hl => (nomatch hl.2), rfl, rfl, rfl⟩

theorem afterActive_cases (r' : Relay) (a2 : Ans) (cs : List Call) :
    SameFwds (afterActive r' a2 cs).1 r' ∧ (Live (afterActive r' a2 cs).1 → (afterActive r' a2 cs).1 = r') := by
  fun_cases afterActive r' a2 cs with
  | case1 c hdr _ r2 r3 cs2 h =>
    have hr : rest r2 = rest { r' with terminated := none } := rest_stopAll _
    -- with `r2`'s value the unifier walks through `stopAll` before it gives up on `rest r2 =?= r2`
    clear_value r2
    have s := SameFwds.of_rest hr
    have d := drainTry_not_live r2 c a2 ((congrArg Relay.draining hr :).trans hdr)
    rw [h] at d
    exact ⟨⟨d.2.f0.trans s.f0, d.2.f1.trans s.f1, d.2.bytestream.trans s.bytestream⟩, fun hl => absurd hl d.1⟩
  | case2 => exact ⟨⟨rfl, rfl, rfl⟩, fun _ => rfl⟩

/-- what an event does to a relay: not live, it stays so and keeps its forwarders; live, it is as one `xfwd_active` on
one forwarder leaves it or (a source's end of stream) live no more -/
inductive Step (r : Relay) (e : Ev) : Relay → Prop
  | notLive {r2} : ¬ Live r → ¬ Live r2 → SameFwds r2 r → Step r e r2
  | fwd0 {f' r' r2} : Live r → Active r r.f0 e.conn e.ans f' r' →
      SameFwds r2 { r' with f0 := f' } → (Live r2 → r2 = { r' with f0 := f' }) → Step r e r2
  | fwd1 {f' r' r2} : Live r → Active r r.f1 e.conn e.ans f' r' →
      SameFwds r2 { r' with f1 := f' } → (Live r2 → r2 = { r' with f1 := f' }) → Step r e r2

theorem step_does (r : Relay) (e : Ev) : Step r e (step r e).1 := by
  -- 1 ended; draining 2 the event's connection, 3 the other; 4 forwarder 0, 5 forwarder 1
  fun_cases step r e with
  | case1 ht =>
    have hn : ¬ Live r := fun h => nomatch h.2 ▸ ht
    exact .notLive hn hn ⟨rfl, rfl, rfl⟩
  | case2 _ hd =>
    have ⟨hn, s⟩ := drainTry_not_live r e.conn e.ans hd
    exact .notLive (fun h => nomatch hd.symm.trans h.1) hn s
  | case3 _ _ hd =>
    have hn : ¬ Live r := fun h => nomatch hd.symm.trans h.1
    exact .notLive hn hn ⟨rfl, rfl, rfl⟩
  | case4 ht hd _ _ _ _ h =>
    exact (afterActive_cases _ _ _).elim fun s he =>
      .fwd0 ⟨hd, Option.not_isSome_iff_eq_none.mp ht⟩ (h ▸ active_does r r.f0 e.conn e.ans :) s he
  | case5 ht hd _ _ _ _ h =>
    exact (afterActive_cases _ _ _).elim fun s he =>
      .fwd1 ⟨hd, Option.not_isSome_iff_eq_none.mp ht⟩ (h ▸ active_does r r.f1 e.conn e.ans :) s he

theorem step_live (r : Relay) (e : Ev) (h : Live (step r e).1) : Live r := by
  cases step_does r e with
  | notLive _ hn => exact absurd h hn
  | fwd0 hl | fwd1 hl => exact hl

theorem step_not_live (r : Relay) (e : Ev) (h : ¬ Live r) : ¬ Live (step r e).1 :=
  fun hl => h (step_live r e hl)

theorem step_fwds (P : Fwd → Prop) (r : Relay) (e : Ev) (hP : ∀ f f' r', Active r f e.conn e.ans f' r' → P f → P f')
    (h0 : P r.f0) (h1 : P r.f1) : P (step r e).1.f0 ∧ P (step r e).1.f1 := by
  cases step_does r e with
  | notLive _ _ s => exact ⟨s.f0 ▸ h0, s.f1 ▸ h1⟩
  | fwd0 _ ha s => rw [s.f0, s.f1]; exact ⟨hP _ _ _ ha h0, ha.sameFwds.f1 ▸ h1⟩
  | fwd1 _ ha s => rw [s.f0, s.f1]; exact ⟨ha.sameFwds.f0 ▸ h0, hP _ _ _ ha h1⟩

theorem step_bytestream (r : Relay) (e : Ev) : (step r e).1.bytestream = r.bytestream := by
  cases step_does r e with
  | notLive _ _ s => exact s.bytestream
  | fwd0 _ ha s | fwd1 _ ha s => exact s.bytestream.trans ha.sameFwds.bytestream

structure RInv (r : Relay) : Prop where
  i0 : FInv r.f0
  i1 : FInv r.f1

theorem step_rinv (r : Relay) (e : Ev) (h : RInv r) : RInv (step r e).1 :=
  have := step_fwds FInv r e (fun _ _ _ ha => ha.finv) h.i0 h.i1
  ⟨this.1, this.2⟩

theorem start_eq (bs : Bool) : start bs = { bytestream := bs, cond1 := 1, cond2 := 1 } := by
  cases bs <;> decide

/-- nothing is dropped, duplicated or reordered inside the relay: after any events and answers, in each direction what
was received from the source is what `xcm_send` on the destination accepted, in order, then what is still held -/
theorem C20_forwarder_exact (bs : Bool) (es : List Ev) :
    let r := run bs es
    r.f0.received.flatten = r.f0.passed.flatten ++ r.f0.buf ∧ r.f1.received.flatten = r.f1.passed.flatten ++ r.f1.buf := by
  have : RInv (run bs es) := List.foldlRecOn es _ (by rw [start_eq]; exact ⟨rfl, rfl⟩) fun r h e _ => step_rinv r e h
  exact ⟨this.i0, this.i1⟩

/-- messaging transports: a message leaves the relay as it was received, one xcm_send per xcm_receive, in order -/
theorem C20_messages_preserved (es : List Ev) (hd : ∀ e ∈ es, ∀ b, e.ans = .data b → b ≠ []) :
    let r := run false es
    MInv r.f0 ∧ MInv r.f1 := by
  have := List.foldlRecOn (motive := fun r : Relay => r.bytestream = false ∧ MInv r.f0 ∧ MInv r.f1) es _ (b := start false) ⟨rfl, rfl, rfl⟩
    fun r h e he => ⟨(step_bytestream r e).trans h.1, step_fwds MInv r e (fun _ _ _ ha => ha.minv h.1 (hd e he)) h.2.1 h.2.2⟩
  exact this.2

/-- the close is passed on only after the flush: while a relay drains no forwarder runs, and it ends only on an event of
the draining connection whose xcm_finish did not say EAGAIN -/
theorem C20_close_after_flush (r : Relay) (e : Ev) (c : Nat) (hd : r.draining = some c) (ht : r.terminated = none) :
    (step r e).1.f0 = r.f0 ∧ (step r e).1.f1 = r.f1 ∧
    ((step r e).1.terminated ≠ none → e.conn = c ∧ e.ans ≠ .err EAGAIN ∧ Call.finish c ∈ (step r e).2) ∧
    ((step r e).1.terminated = none → (step r e).1.draining = some c) := by
  unfold step
  simp only [ht, Option.isSome_none, Bool.false_eq_true, if_false, hd]
  by_cases hc : e.conn = c
  · rw [if_pos hc, drainTry_eq]
    by_cases ha : e.ans = .err EAGAIN
    · rw [if_pos ha]
      exact ⟨rfl, rfl, fun hne => absurd ht hne, fun _ => hd⟩
    · rw [if_neg ha]
      exact ⟨rfl, rfl, fun _ => ⟨hc, ha, .head _⟩, nofun⟩
  · rw [if_neg hc]
    exact ⟨rfl, rfl, fun hne => absurd ht hne, fun _ => hd⟩

def exp1 (r : Relay) : Nat := (if r.f0.buf.isEmpty then 1 else 0) + (if r.f1.buf.isEmpty then 0 else 2)
def exp2 (r : Relay) : Nat := (if r.f1.buf.isEmpty then 1 else 0) + (if r.f0.buf.isEmpty then 0 else 2)

/-- what to await on a connection, by whether the forwarders reading from it and writing to it are empty (`exp1`, `exp2`
unfold to it); 1 is `RECEIVABLE`, 2 `SENDABLE` -/
def want (inEmpty outEmpty : Bool) : Nat := (if inEmpty then 1 else 0) + (if outEmpty then 0 else 2)

theorem bits_want (x y : Bool) :
    setBit (want x y) 1 = want true y ∧ clrBit (want x y) 1 = want false y ∧
    setBit (want x y) 2 = want x false ∧ clrBit (want x y) 2 = want x true := by
  cases x <;> cases y <;> decide

/-- of a live relay: forwarder 0 goes 1 → 2, forwarder 1 back, and each connection awaits its `want` -/
structure CInv (r : Relay) : Prop where
  ends0 : r.f0.src = 1 ∧ r.f0.dst = 2
  ends1 : r.f1.src = 2 ∧ r.f1.dst = 1
  conds : r.cond1 = want r.f0.buf.isEmpty r.f1.buf.isEmpty ∧ r.cond2 = want r.f1.buf.isEmpty r.f0.buf.isEmpty

theorem await_conds (r : Relay) (f : Fwd) :
    (f.src = 1 → f.dst = 2 →
      awaitOutput r f = { r with cond1 := clrBit r.cond1 1, cond2 := setBit r.cond2 2 } ∧
      awaitInput r f = { r with cond1 := setBit r.cond1 1, cond2 := clrBit r.cond2 2 }) ∧
    (f.src = 2 → f.dst = 1 →
      awaitOutput r f = { r with cond2 := clrBit r.cond2 1, cond1 := setBit r.cond1 2 } ∧
      awaitInput r f = { r with cond2 := setBit r.cond2 1, cond1 := clrBit r.cond1 2 }) := by
  refine ⟨fun hs hd => ?_, fun hs hd => ?_⟩ <;> unfold awaitOutput awaitInput <;> rw [hs, hd] <;> exact ⟨rfl, rfl⟩

theorem step_cinv (r : Relay) (e : Ev) (hd : ∀ bs, e.ans = .data bs → bs ≠ []) (hl : Live r) (hl' : Live (step r e).1)
    (h : CInv r) : CInv (step r e).1 := by
  obtain ⟨⟨s0, d0⟩, ⟨s1, d1⟩, c1, c2⟩ := h
  -- in each case of `Active.conds` both sides become `want` of the buffers' emptiness, by `bits_want`
  cases step_does r e with
  | notLive hn => exact absurd hl hn
  | fwd0 _ ha _ he =>
    rw [he hl']
    have aw := (await_conds r r.f0).1 s0 d0
    have h1 := ha.sameFwds.f1
    refine ⟨⟨ha.ends.1.trans s0, ha.ends.2.trans d0⟩, ⟨h1 ▸ s1, h1 ▸ d1⟩, ?_⟩
    simp only [h1]
    rcases ha.conds hd with ⟨e1, e2⟩ | ⟨e1, e2⟩ | ⟨e1, e2⟩ <;> simp only [e1, e2, aw, c1, c2, bits_want, and_self]
  | fwd1 _ ha _ he =>
    rw [he hl']
    have aw := (await_conds r r.f1).2 s1 d1
    have h0 := ha.sameFwds.f0
    refine ⟨⟨h0 ▸ s0, h0 ▸ d0⟩, ⟨ha.ends.1.trans s1, ha.ends.2.trans d1⟩, ?_⟩
    simp only [h0]
    rcases ha.conds hd with ⟨e1, e2⟩ | ⟨e1, e2⟩ | ⟨e1, e2⟩ <;> simp only [e1, e2, aw, c1, c2, bits_want, and_self]

/-- neither direction is left unattended: a live relay awaits RECEIVABLE on a forwarder's source iff it holds nothing,
SENDABLE on its destination iff it holds data -/
theorem C20_awaits_what_it_needs (bs : Bool) (es : List Ev) (hd : ∀ e ∈ es, ∀ b, e.ans = .data b → b ≠ []) :
    let r := run bs es
    Live r → r.cond1 = exp1 r ∧ r.cond2 = exp2 r :=
  have := List.foldlRecOn (motive := fun r => Live r → CInv r) es _ (b := start bs) (fun _ => by rw [start_eq]; exact ⟨⟨rfl, rfl⟩, ⟨rfl, rfl⟩, rfl, rfl⟩)
    fun r h e he hl' => step_cinv r e (hd e he) (step_live r e hl') hl' (h (step_live r e hl'))
  fun hl => (this hl).conds

def ev (f c : Nat) (a : Ans) : Ev := { fwd := f, conn := c, ans := a }

/-- non-vacuity: two messages travel 1 -> 2 with an EAGAIN in between, one travels back -/
example :
    let r := run false [ev 0 1 (.data [1, 2]), ev 0 2 (.err EAGAIN), ev 0 2 (.ok 0), ev 1 2 (.data [9]), ev 0 1 (.data [3]), ev 1 1 (.ok 0), ev 0 2 (.ok 0)]
    r.f0.passed = [[1, 2], [3]] ∧ r.f1.passed = [[9]] ∧ r.terminated = none := by decide

end XcmModel.C20
