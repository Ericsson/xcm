import XcmModel.TimerMgr
import XcmModel.Lemmas.List
/-!
  The timer manager (libxcm/core/timer_mgr.c) turns the deadlines of connect attempts, of the Happy Eyeballs delay and of
  name resolution into the readability of one timerfd; `Tconnect` takes "the timer fired" as an input.  `Inv` holds along
  every history of schedule / cancel / ack / reschedule calls, so no timeout is lost (C04, C13) and no wake-up left
  behind (C16).  The theorems without a `Cxx_` name that nothing below uses stand for themselves (C13: one user's calls
  cannot disturb another's deadline).  That `timer_mgr_create` registers the timerfd with the socket's xpoll is not
  modelled.
-/
namespace XcmModel.TimerProps
open XcmModel.TimerMgr

theorem candidate_eq_min (t : Timer) (ts : List Timer) :
    ((t :: ts).map (·.expiry)).min? = some (candidate t.expiry ts) := by
  rw [List.map_cons, List.min?_cons', List.foldl_map]
  congr; funext c m
  split
  · next h => exact Nat.min_eq_right (Nat.le_of_lt h)
  · next h => exact Nat.min_eq_left (Nat.le_of_not_lt h)

theorem armValue_eq_max (e : Nat) : armValue e = max e 1 := by
  unfold armValue; split
  · next h => rw [h]; rfl
  · next h => exact (Nat.max_eq_left (Nat.pos_of_ne_zero h)).symm

theorem armValue_le_iff (e n : Nat) : armValue e ≤ n ↔ e ≤ n ∧ 0 < n := by
  rw [armValue_eq_max]; exact Nat.max_le

theorem armValue_mono {a b : Nat} (h : a ≤ b) : armValue a ≤ armValue b := by
  rw [armValue_eq_max, armValue_eq_max]
  exact Nat.max_le.mpr ⟨Nat.le_trans h (Nat.le_max_left ..), Nat.le_max_right ..⟩

/-- the timerfd's setting agrees with the list: disarmed iff empty, else the earliest live deadline -/
def ArmedOk (s : State) : Prop :=
  (s.timers = [] → s.armed = none) ∧
  (s.timers ≠ [] → ∃ a, s.armed = some a ∧ (∀ t ∈ s.timers, a ≤ armValue t.expiry) ∧ ∃ t ∈ s.timers, a = armValue t.expiry)

def Inv (s : State) : Prop :=
  ArmedOk s ∧ (∀ t ∈ s.timers, t.id < s.nextId) ∧ (s.timers.map (·.id)).Nodup

theorem updateEpoll_armedOk (s : State) : ArmedOk (updateEpoll s) := by
  unfold updateEpoll ArmedOk
  cases h : s.timers with
  | nil => simp
  | cons t ts =>
    obtain ⟨hmem, hle⟩ := List.min?_eq_some_iff.mp (candidate_eq_min t ts)
    obtain ⟨m, hm, e⟩ := List.mem_map.mp hmem
    exact ⟨by simp, fun _ => ⟨_, rfl, fun x hx => armValue_mono (hle _ (List.mem_map_of_mem hx)), m, hm, by rw [e]⟩⟩

@[simp] theorem updateEpoll_timers (s : State) : (updateEpoll s).timers = s.timers := by
  unfold updateEpoll; split <;> rfl

@[simp] theorem updateEpoll_nextId (s : State) : (updateEpoll s).nextId = s.nextId := by
  unfold updateEpoll; split <;> rfl

theorem removeFirst_eq_eraseP (ts : List Timer) (id : Int) :
    removeFirst ts id = ts.eraseP (fun t => (t.id : Int) == id) := by
  induction ts with
  | nil => rfl
  | cons x r ih => rw [removeFirst, List.eraseP_cons, ih]; cases ((x.id : Int) == id) <;> rfl

@[simp] theorem cancel_nextId (s : State) (id : Int) : (cancel s id).1.nextId = s.nextId := by
  unfold cancel tryCancel; split <;> simp

theorem cancel_timers (s : State) (id : Int) : (cancel s id).1.timers = removeFirst s.timers id := by
  unfold cancel tryCancel; split
  · exact updateEpoll_timers _
  · rename_i hf
    rw [removeFirst_eq_eraseP]
    exact (List.eraseP_of_forall_not (List.find?_eq_none.mp hf)).symm

/-- a stale id (its timer was cancelled or acknowledged earlier) cancels nothing -/
theorem stale_cancel_harmless (s : State) (id : Int) (hst : find s id = none) : (cancel s id).1 = s := by
  simp [cancel, tryCancel, hst]

theorem schedule_timers (s : State) (now : Nat) (rel : Int) :
    (schedule s now rel).1.timers = { id := s.nextId, expiry := now + rel.toNat } :: s.timers :=
  updateEpoll_timers _

@[simp] theorem schedule_nextId (s : State) (now : Nat) (rel : Int) : (schedule s now rel).1.nextId = s.nextId + 1 :=
  updateEpoll_nextId _

@[simp] theorem schedule_id (s : State) (now : Nat) (rel : Int) : (schedule s now rel).2 = s.nextId := rfl

/-- the guard `timer_id >= 0` of `timer_mgr_reschedule` only saves a search: no timer has a negative id -/
theorem reschedule_eq (s : State) (now : Nat) (rel : Int) (id : Int) :
    reschedule s now rel id = ((schedule (cancel s id).1 now rel).1, (s.nextId : Int)) := by
  have e : (if id ≥ 0 then (cancel s id).1 else s) = (cancel s id).1 := by
    split
    · rfl
    · next hn =>
      exact (stale_cancel_harmless s id (List.find?_eq_none.mpr fun t _ e => hn (eq_of_beq e ▸ Int.natCast_nonneg _))).symm
  simp only [reschedule, e, schedule_id, cancel_nextId]

/-- every history is a sequence of cancels and schedules: what both keep holds along `run` -/
theorem run_ind {P : State → Prop} (hc : ∀ s id, P s → P (cancel s id).1) (hs : ∀ s now rel, P s → P (schedule s now rel).1) :
    ∀ (ops : List Op) (s s' : State), run s ops = some s' → P s → P s' := by
  have step_ind : ∀ s o s1, step s o = some s1 → P s → P s1 := by
    intro s o s1 h1 h
    cases o with
    | schedule now rel => cases h1; exact hs s now rel h
    | cancel id => cases h1; exact hc s id h
    | ack id =>
      -- an ack that finds no timer aborts; one that finds it is its cancel
      unfold step ack at h1
      cases he : (tryCancel s id).2 <;> simp only [he] at h1 <;> cases h1
      exact hc s id h
    | reschedule now rel id =>
      cases h1; rw [reschedule_eq]; exact hs _ now rel (hc s id h)
  intro ops s s' hr
  fun_induction run s ops with
  | case1 => cases hr; exact id
  | case2 s o os s1 h1 ih => exact fun h => ih hr (step_ind s o s1 h1 h)
  | case3 => cases hr

theorem inv_init : Inv ({} : State) :=
  ⟨⟨fun _ => rfl, fun h => absurd rfl h⟩, by simp, by simp⟩

theorem cancel_inv (s : State) (id : Int) (h : Inv s) : Inv (cancel s id).1 := by
  refine ⟨?_, fun t ht => ?_, ?_⟩
  · unfold cancel tryCancel; split
    · exact updateEpoll_armedOk _
    · exact h.1
  · rw [cancel_timers, removeFirst_eq_eraseP] at ht
    rw [cancel_nextId]; exact h.2.1 t (List.mem_of_mem_eraseP ht)
  · rw [cancel_timers, removeFirst_eq_eraseP]
    exact h.2.2.sublist (List.eraseP_sublist.map _)

theorem schedule_inv (s : State) (now : Nat) (rel : Int) (h : Inv s) : Inv (schedule s now rel).1 := by
  have fresh : s.nextId ∉ s.timers.map (·.id) := fun hm => by
    obtain ⟨t, ht, e⟩ := List.mem_map.mp hm
    exact Nat.lt_irrefl _ (e ▸ h.2.1 t ht)
  refine ⟨updateEpoll_armedOk _, fun t ht => ?_, ?_⟩
  · rw [schedule_timers, List.mem_cons] at ht
    rcases ht with e | e
    · subst e; exact Nat.lt_succ_self _
    · exact Nat.lt_succ_of_lt (h.2.1 t e)
  · rw [schedule_timers, List.map_cons, List.nodup_cons]; exact ⟨fresh, h.2.2⟩

theorem reschedule_inv (s : State) (now : Nat) (rel : Int) (id : Int) (h : Inv s) : Inv (reschedule s now rel id).1 := by
  rw [reschedule_eq]; exact schedule_inv _ now rel (cancel_inv s id h)

theorem timer_inv_run (ops : List Op) (s s' : State) (h : Inv s) (hr : run s ops = some s') : Inv s' :=
  run_ind cancel_inv schedule_inv ops s s' hr h

theorem readable_iff (s : State) (h : Inv s) (now : Nat) :
    readable s now = true ↔ ∃ t ∈ s.timers, armValue t.expiry ≤ now := by
  by_cases hem : s.timers = []
  · simp [readable, h.1.1 hem, hem]
  · obtain ⟨a, ha, hle, t, ht, e⟩ := h.1.2 hem
    simp only [readable, ha, decide_eq_true_eq]
    exact ⟨fun hrd => ⟨t, ht, e ▸ hrd⟩, fun ⟨u, hu, hd⟩ => Nat.le_trans (hle u hu) hd⟩

theorem wakes_of_inv (s : State) (h : Inv s) (t : Timer) (ht : t ∈ s.timers) (now : Nat)
    (hexp : armValue t.expiry ≤ now) : readable s now = true :=
  (readable_iff s h now).mpr ⟨t, ht, hexp⟩

theorem quiet_of_inv (s : State) (h : Inv s) (now : Nat) (hrd : readable s now = true) :
    ∃ t ∈ s.timers, t.expiry ≤ now :=
  let ⟨t, ht, hd⟩ := (readable_iff s h now).mp hrd
  ⟨t, ht, ((armValue_le_iff _ _).mp hd).1⟩

/-- a live timer whose deadline is reached (`armValue`: from 1 ns on for deadline 0) makes the timerfd readable, whatever
was scheduled, cancelled or acknowledged before -/
theorem C04_expired_timer_wakes (ops : List Op) (s : State) (hr : run {} ops = some s)
    (t : Timer) (ht : t ∈ s.timers) (now : Nat) (hexp : armValue t.expiry ≤ now) : readable s now = true :=
  wakes_of_inv s (timer_inv_run ops {} s inv_init hr) t ht now hexp

/-- whenever `timer_mgr_has_expired` would say yes the fd is readable: the owner's process function gets called -/
theorem C13_has_expired_implies_readable (ops : List Op) (s : State) (hr : run {} ops = some s)
    (id : Int) (now : Nat) (h : hasExpired s now id = .ok true) : readable s now = true := by
  unfold hasExpired at h
  split at h
  · rename_i t hf
    have hgt : now > t.expiry := of_decide_eq_true (Outcome.ok.inj h)
    exact C04_expired_timer_wakes ops s hr t (List.mem_of_find?_eq_some hf) now
      ((armValue_le_iff _ _).mpr ⟨Nat.le_of_lt hgt, Nat.zero_lt_of_lt hgt⟩)
  · cases h

/-- the timerfd is readable only if some live timer's deadline has been reached -/
theorem C16_timer_quiet (ops : List Op) (s : State) (hr : run {} ops = some s) (now : Nat)
    (hrd : readable s now = true) : ∃ t ∈ s.timers, t.expiry ≤ now :=
  quiet_of_inv s (timer_inv_run ops {} s inv_init hr) now hrd

/-- with no live timer the timerfd is disarmed -/
theorem C16_no_timers_quiet (ops : List Op) (s : State) (hr : run {} ops = some s) (hem : s.timers = [])
    (now : Nat) : readable s now = false := by
  simp [readable, (timer_inv_run ops {} s inv_init hr).1.1 hem]

theorem find_of_mem (s : State) (h : Inv s) (t : Timer) (ht : t ∈ s.timers) : find s t.id = some t :=
  find?_of_nodup_map (·.id) h.2.2 ht (beq_self_eq_true _) fun _ h => Int.ofNat_inj.mp (eq_of_beq h)

/-- no wake-up is for nothing: one nanosecond later `timer_mgr_has_expired` confirms it for some timer (at the very
deadline the fd is readable and it still says no: the manager compares with `>`, the kernel fires at `>=`) -/
theorem C16_wakeup_confirmed (ops : List Op) (s : State) (hr : run {} ops = some s) (now : Nat)
    (hrd : readable s now = true) : ∃ t ∈ s.timers, hasExpired s (now + 1) t.id = .ok true := by
  have hinv := timer_inv_run ops {} s inv_init hr
  obtain ⟨t, ht, hle⟩ := quiet_of_inv s hinv now hrd
  refine ⟨t, ht, ?_⟩
  rw [hasExpired, find_of_mem s hinv t ht]
  exact congrArg Outcome.ok (decide_eq_true (Nat.lt_succ_of_le hle))

theorem removeFirst_eq_filter (ts : List Timer) (id : Int) (nd : (ts.map (·.id)).Nodup) :
    removeFirst ts id = ts.filter (fun t => ((t.id : Int) != id)) := by
  fun_induction removeFirst ts id
  case case1 => rfl
  case case2 x r hx =>
    -- `x` goes, and no other timer carries its id
    have hx' : ¬ ((x.id : Int) != id) = true := mt bne_iff_ne.mp (not_not_intro (eq_of_beq hx))
    rw [List.filter_cons, if_neg hx']
    exact (List.filter_eq_self.mpr fun t ht => bne_iff_ne.mpr fun e =>
      (List.nodup_cons.mp nd).1 (List.mem_map.mpr ⟨t, ht, Int.ofNat_inj.mp (e.trans (eq_of_beq hx).symm)⟩)).symm
  case case3 x r hx ih =>
    have hx' : ((x.id : Int) != id) = true := bne_iff_ne.mpr (mt beq_iff_eq.mpr hx)
    rw [List.filter_cons, if_pos hx', ih (List.nodup_cons.mp nd).2]

theorem cancel_exact (s : State) (id : Int) (h : Inv s) :
    (cancel s id).1.timers = s.timers.filter (fun t => ((t.id : Int) != id)) := by
  rw [cancel_timers, removeFirst_eq_filter _ _ h.2.2]

/-- a cancel (or ack) that names another id leaves a live timer alone -/
theorem other_calls_keep_timer (s : State) (h : Inv s) (t : Timer) (ht : t ∈ s.timers) (id : Int) (hne : (t.id : Int) ≠ id) :
    t ∈ (cancel s id).1.timers := by
  rw [cancel_exact s id h]; exact List.mem_filter.mpr ⟨ht, bne_iff_ne.mpr hne⟩

theorem find_cancel (s : State) (h : Inv s) (id id' : Int) :
    find (cancel s id).1 id' = if id' = id then none else find s id' := by
  unfold find
  rw [cancel_exact s id h, List.find?_filter]
  split
  · rename_i e; subst e
    exact List.find?_eq_none.mpr fun t _ => by simp
  · rename_i hne
    congr; funext t
    by_cases e : (t.id : Int) = id' <;> simp [e, hne]

theorem find_schedule (s : State) (now : Nat) (rel : Int) (id' : Int) :
    find (schedule s now rel).1 id' =
      if (s.nextId : Int) = id' then some { id := s.nextId, expiry := now + rel.toNat } else find s id' := by
  rw [find, schedule_timers]
  split
  next h => exact List.find?_cons_of_pos (beq_iff_eq.mpr h)
  next h => exact List.find?_cons_of_neg (mt beq_iff_eq.mp h)

theorem find_reschedule (s : State) (h : Inv s) (now : Nat) (rel : Int) (id id' : Int) :
    find (reschedule s now rel id).1 id' =
      if (s.nextId : Int) = id' then some { id := s.nextId, expiry := now + rel.toNat }
      else if id' = id then none else find s id' := by
  rw [reschedule_eq, find_schedule, cancel_nextId, find_cancel s h]

theorem schedule_fresh_id (s : State) (now : Nat) (rel : Int) (h : Inv s) :
    (schedule s now rel).2 = s.nextId ∧ (∀ t ∈ s.timers, t.id ≠ (schedule s now rel).2) ∧
    find (schedule s now rel).1 ((schedule s now rel).2 : Nat) = some { id := s.nextId, expiry := now + rel.toNat } :=
  ⟨rfl, fun t ht e => Nat.lt_irrefl _ (e ▸ h.2.1 t ht), by rw [find_schedule, schedule_id, if_pos rfl]⟩

/-- an id handed out once never comes to denote another timer -/
theorem ids_never_reused (ops : List Op) (s s' : State) (h : Inv s) (hr : run s ops = some s') :
    s.nextId ≤ s'.nextId ∧ ∀ t ∈ s'.timers, t.id < s.nextId → t ∈ s.timers := by
  refine run_ind (P := fun b => s.nextId ≤ b.nextId ∧ ∀ t ∈ b.timers, t.id < s.nextId → t ∈ s.timers)
    (fun a id f => ⟨cancel_nextId a id ▸ f.1, fun t ht => f.2 t ?_⟩)
    (fun a now rel f => ⟨schedule_nextId a now rel ▸ Nat.le_succ_of_le f.1, fun t ht hlt => ?_⟩) ops s s' hr
    ⟨Nat.le_refl _, fun _ ht _ => ht⟩
  · rw [cancel_timers, removeFirst_eq_eraseP] at ht; exact List.mem_of_mem_eraseP ht
  · rw [schedule_timers, List.mem_cons] at ht
    rcases ht with e | e
    · subst e; exact absurd (Nat.lt_of_lt_of_le hlt f.1) (Nat.lt_irrefl _)
    · exact f.2 t e hlt

/-- `timer_mgr_reschedule` of a live timer replaces it: one user never ends up with two deadlines -/
theorem reschedule_replaces (s : State) (h : Inv s) (now : Nat) (rel : Int) (id : Int) (t : Timer) (hl : find s id = some t) :
    find (reschedule s now rel id).1 id = none ∧
    find (reschedule s now rel id).1 (reschedule s now rel id).2 = some { id := s.nextId, expiry := now + rel.toNat } ∧
    ∀ id' : Int, id' ≠ id → id' ≠ (s.nextId : Int) → find (reschedule s now rel id).1 id' = find s id' := by
  -- the live id is below the counter, so it is not the new id
  obtain rfl : (t.id : Int) = id := eq_of_beq (List.find?_some hl :)
  have hlt := h.2.1 t (List.mem_of_find?_eq_some hl)
  have hne : ¬ (s.nextId : Int) = t.id := fun e => Nat.lt_irrefl _ (Int.ofNat_inj.mp e ▸ hlt)
  refine ⟨?_, ?_, fun id' h1 h2 => ?_⟩
  · rw [find_reschedule s h, if_neg hne, if_pos rfl]
  · rw [find_reschedule s h, reschedule_eq, if_pos rfl]
  · rw [find_reschedule s h, if_neg (Ne.symm h2), if_neg h1]

theorem ack_live_no_abort (s : State) (id : Int) (t : Timer) (h : find s id = some t) : ∃ r, ack s id = .ok r := by
  simp [ack, tryCancel, h]

/-- on a live id `timer_mgr_has_expired` does not reach its NULL dereference (`.oob`) -/
theorem hasExpired_live_no_oob (s : State) (now : Nat) (id : Int) (t : Timer) (h : find s id = some t) :
    ∃ b, hasExpired s now id = .ok b := by
  simp [hasExpired, h]

/-- non-vacuity: two users whose timers interleave -/
example :
    let ops := [Op.schedule 100 50, .schedule 100 20, .cancel 1, .schedule 130 5, .ack 0]
    ∃ s, run {} ops = some s ∧ s.timers = [{ id := 2, expiry := 135 }] ∧ s.armed = some 135 ∧
      readable s 134 = false ∧ readable s 135 = true := by
  refine ⟨_, rfl, ?_⟩; decide

/-- on an id that is not live `timer_mgr_ack` does abort: `ack_live_no_abort` needs its hypothesis -/
example : ack {} 0 = .abort "timer_mgr_ack: assert(existed)" := rfl

end XcmModel.TimerProps
