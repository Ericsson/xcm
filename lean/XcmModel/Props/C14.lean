import XcmModel.Ctl
/- C14 - the control interface is passive and safe (the owner's request handling, ctl.c). -/
namespace XcmModel.C14
open XcmModel XcmModel.Ctl

theorem addAttr_eq (acc : List Attr) (a : Attr) :
    addAttr acc a = if (!sensitive a.name && fits a) = true ∧ acc.length ≠ Generated.CTL_PROTO_MAX_ATTRS then acc ++ [a] else acc := by
  unfold addAttr
  cases sensitive a.name <;> cases fits a <;> simp

theorem foldl_addAttr_filter (attrs acc : List Attr) (h : acc.length ≤ Generated.CTL_PROTO_MAX_ATTRS) :
    attrs.foldl addAttr acc =
      (acc ++ attrs.filter (fun a => !sensitive a.name && fits a)).take Generated.CTL_PROTO_MAX_ATTRS := by
  induction attrs generalizing acc with
  | nil => rw [List.filter_nil, List.append_nil, List.take_of_length_le h, List.foldl_nil]
  | cons a t ih =>
    rw [List.foldl_cons, addAttr_eq, List.filter_cons]
    by_cases hk : (!sensitive a.name && fits a) = true
    · rw [if_pos hk]
      by_cases hl : acc.length = Generated.CTL_PROTO_MAX_ATTRS
      · -- the reply is full: neither side looks beyond `acc`
        rw [if_neg (fun h => h.2 hl), ih acc h, List.take_append_of_le_length (Nat.le_of_eq hl.symm),
          List.take_append_of_le_length (Nat.le_of_eq hl.symm)]
      · rw [if_pos ⟨hk, hl⟩, ih _ (by rw [List.length_append]; exact Nat.lt_of_le_of_ne h hl), List.append_assoc,
          List.singleton_append]
    · rw [if_neg (fun h => hk h.1), if_neg hk, ih acc h]

/-- get-all is the in-process listing, in order, less tls.key and what the wire format cannot carry, cut at the reply's
capacity -/
theorem C14_getall_equals_inprocess (prevType : Nat) (attrs : List Attr) :
    (processGetAll prevType attrs).body =
      .all ((attrs.filter (fun a => !sensitive a.name && fits a)).take Generated.CTL_PROTO_MAX_ATTRS) :=
  congrArg Body.all (foldl_addAttr_filter attrs [] (Nat.zero_le _))

theorem foldl_addAttr_spec (attrs acc : List Attr) (h : acc.length ≤ Generated.CTL_PROTO_MAX_ATTRS)
    (hall : ∀ x ∈ acc, fits x = true ∧ sensitive x.name = false) :
    (attrs.foldl addAttr acc).length ≤ Generated.CTL_PROTO_MAX_ATTRS
    ∧ (∀ x ∈ attrs.foldl addAttr acc, fits x = true ∧ sensitive x.name = false) := by
  rw [foldl_addAttr_filter attrs acc h]
  refine ⟨List.length_take_le _ _, fun x hx => ?_⟩
  rcases List.mem_append.mp (List.mem_of_mem_take hx) with hx | hx
  · exact hall x hx
  · simpa [and_comm] using (List.mem_filter.mp hx).2

/-- no out-of-bounds write in the get-all reply builder, for every attribute set: at most `CTL_PROTO_MAX_ATTRS` entries,
every name and value within its field -/
theorem C14_getall_bounded (prevType : Nat) (attrs : List Attr) :
    ∃ l, (processGetAll prevType attrs).body = .all l ∧ l.length ≤ Generated.CTL_PROTO_MAX_ATTRS
      ∧ ∀ x ∈ l, x.name.length < Generated.XCM_ATTR_NAME_MAX ∧ x.value.length ≤ Generated.CTL_ATTR_VALUE_MAX := by
  obtain ⟨hlen, hall⟩ := foldl_addAttr_spec attrs [] (Nat.zero_le _) nofun
  exact ⟨_, rfl, hlen, fun x hx => by simpa [fits] using (hall x hx).1⟩

/-- the value of tls.key is never disclosed, by a get or by a get-all -/
theorem C14_key_never_disclosed (prevType : Nat) (attrs : List Attr) (r : InProc) :
    processGetAttr tlsKey r = { type := tGetAttrRej, body := .rej Generated.EACCES, residue := [] }
    ∧ ∀ l, (processGetAll prevType attrs).body = .all l → ∀ x ∈ l, x.name ≠ tlsKey := by
  constructor
  · rfl
  · rintro l ⟨⟩ x hx he
    have := ((foldl_addAttr_spec attrs [] (Nat.zero_le _) nofun).2 x hx).2
    rw [he] at this
    cases this

/-- a well-formed get is answered with exactly the in-process result, or a rejection with its errno -/
theorem C14_reply_equals_inprocess (name : Bytes) (hn : name ≠ tlsKey) (t : Nat) (v : Bytes) (e : Nat) :
    processGetAttr name (.ok t v) = { type := tGetAttrCfm, body := .cfm t v }
    ∧ processGetAttr name (.err e) = { type := tGetAttrRej, body := .rej e } := by
  simp [processGetAttr, sensitive, hn]

theorem tGetAttrReq_ne_tGetAllReq : tGetAttrReq ≠ tGetAllReq := by decide +kernel

section

-- the type codes are positions in a list of strings: keep the unifier from computing them
attribute [local irreducible] tGetAttrReq tGetAttrCfm tGetAttrRej tGetAllReq tGetAllCfm

theorem processGetAttr_type (name : Bytes) (r : InProc) :
    (processGetAttr name r).type = tGetAttrCfm ∨ (processGetAttr name r).type = tGetAttrRej := by
  fun_cases processGetAttr name r
  · exact .inr rfl
  · exact .inl rfl
  · exact .inr rfl

/-- whichever request comes first on a session: the reply's type does not depend on what the session's reply buffer held
(excludes F-14d: get-all leaving the old type in place) -/
theorem C14_first_request_any (size type : Nat) (field : Bytes) (p q : Nat) (lookup : Bytes → InProc) (attrs : List Attr) :
    clientReceive size type field p lookup attrs = clientReceive size type field q lookup attrs
    ∧ (∀ r, clientReceive size type field p lookup attrs = .reply r →
        (type = tGetAllReq → r.type = tGetAllCfm) ∧ (type = tGetAttrReq → r.type = tGetAttrCfm ∨ r.type = tGetAttrRej)) := by
  refine ⟨rfl, fun r => ?_⟩
  -- 2 get-attr, 3 get-all
  fun_cases clientReceive size type field p lookup attrs with
  | case2 _ h0 =>
    rintro ⟨⟩
    exact ⟨fun hh => absurd (h0.symm.trans hh) tGetAttrReq_ne_tGetAllReq, fun _ => processGetAttr_type _ _⟩
  | case3 _ h0 => rintro ⟨⟩; exact ⟨fun _ => rfl, fun hh => absurd hh h0⟩
  | _ => nofun

end

/-- a request of another size or of neither type gets no reply (the session is closed) -/
theorem C14_malformed_dropped (size type : Nat) (field : Bytes) (p : Nat) (lookup : Bytes → InProc) (attrs : List Attr)
    (h : size ≠ msgSize ∨ (type ≠ tGetAttrReq ∧ type ≠ tGetAllReq)) :
    clientReceive size type field p lookup attrs = .drop := by
  unfold clientReceive
  rcases h with h | ⟨h1, h2⟩
  · rw [if_pos h]
  · rw [if_neg h1, if_neg h2, ite_self]

/-- an unterminated name cannot make the owner read beyond the request: the name used lies within the first
XCM_ATTR_NAME_MAX-1 bytes of the field, whatever that holds -/
theorem C14_name_within_field (field : Bytes) :
    (termName field).length ≤ Generated.XCM_ATTR_NAME_MAX - 1 ∧ (termName field) <+: field ∧ (0 : UInt8) ∉ termName field := by
  unfold termName
  refine ⟨?_, ?_, ?_⟩
  · exact Nat.le_trans (List.takeWhile_sublist _).length_le (List.length_take_le _ _)
  · exact List.IsPrefix.trans (List.takeWhile_prefix _) (List.take_prefix _ _)
  · intro h
    have := List.all_eq_true.mp List.all_takeWhile _ h
    simp at this

/-- at most `CTL_MAX_CLIENTS` sessions, whatever connects and disconnects -/
theorem C14_sessions_bounded (evs : List Ev) : evs.foldl sessStep 0 ≤ Generated.CTL_MAX_CLIENTS :=
  List.foldlRecOn (motive := (· ≤ Generated.CTL_MAX_CLIENTS)) evs sessStep (Nat.zero_le _) fun n h e _ => by
    fun_cases sessStep n e with
    | case1 hlt => exact Nat.succ_le_of_lt hlt
    | case2 => exact h
    | case3 => exact Nat.le_trans (Nat.sub_le n 1) h

theorem removeClient_perm (cs : List Client) (i : Nat) (hi : i < cs.length) :
    (removeClient cs i).Perm (cs.eraseIdx i) := by
  -- 1 the last slot goes, 2 the last client moves to slot `i`, 3 no client
  fun_cases removeClient cs i with
  | case1 hl => rw [List.eraseIdx_eq_dropLast hl]
  | case2 hl last hlast =>
    -- `cs = d ++ [last]`: both sides are `take i d ++ _ ++ drop (i + 1) d`, `last` in the hole or at the end
    obtain ⟨d, rfl⟩ := List.getLast?_eq_some_iff.mp hlast
    rw [List.length_append, List.length_singleton] at hi hl
    have hd : i < d.length := by omega
    rw [List.set_append_left i last hd, List.dropLast_concat, List.eraseIdx_append_of_lt_length hd,
      List.set_eq_take_append_cons_drop, if_pos hd, List.eraseIdx_eq_take_drop_succ]
    exact List.perm_middle.trans (List.perm_append_singleton _ _).symm
  | case3 hl hnone => exact absurd (List.getLast?_eq_none_iff.mp hnone ▸ hi) (Nat.not_lt_zero _)

/-- a session's pending reply stays with it when another session goes: after `remove_client i` the sessions are exactly
the others, each still the pair of its own descriptor and pending reply -/
theorem C14_remove_keeps_sessions_apart (cs : List Client) (i : Nat) (hi : i < cs.length) (c : Client) :
    c ∈ removeClient cs i ↔ ∃ j : Nat, j ≠ i ∧ cs[j]? = some c :=
  (removeClient_perm cs i hi).mem_iff.trans List.mem_eraseIdx_iff_getElem?

/-- non-vacuity: a get-all leaves out tls.key and nothing else -/
example :
    (processGetAll 0 [{ name := [97], type := 3, value := [1] }, { name := tlsKey, type := 4, value := [9] },
                      { name := [99], type := 1, value := [0] }]).body
      = .all [{ name := [97], type := 3, value := [1] }, { name := [99], type := 1, value := [0] }] := by
  decide

/-- non-vacuity: a value of 513 bytes does not fit the wire format -/
example : fits { name := [98], type := 4, value := List.replicate 513 0 } = false := by
  simp only [fits, List.length_replicate]
  decide

end XcmModel.C14
