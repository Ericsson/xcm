import XcmModel.AttrAccess
import XcmModel.Props.C19
/-
C10 - attribute reads and writes are memory-safe and type-checked.

`Generated.attrTable` is regenerated from /repo on each run: one row per `attr_tree_add_value_node` site after macro
expansion, the getter classified by the bounded-copy idiom of its body.

Trusted: the classification of getter bodies (extract/ext_attrs.py) and the model of attr_tree.c/attr_node.c/xcm.c,
tied to the code by the capacity sweep of `sys_attr` on live sockets; `memcpy` is not modelled (ASan in the harness).
-/
namespace XcmModel.C10
open XcmModel XcmModel.AttrAccess XcmModel.Generated

/-- every row extracted from the source uses a bounded getter idiom consistent with its declared type -/
theorem C10_table_safe : ∀ r ∈ attrTable, SafeRow r.type r.kind = true := by decide +kernel

/-- what C10 asks of a get -/
def Good (cap : Nat) (o : GetOut) : Prop :=
  o.written ≤ cap ∧ ∀ n, o.res = .ok n → o.written = n

theorem good_err (cap e : Nat) : Good cap ⟨.error e, 0⟩ := ⟨Nat.zero_le _, fun _ h => nomatch h⟩

/-- the bounded-copy idiom -/
def copyOut (n cap : Nat) : GetOut := if cap < n then ⟨.error EOVERFLOW, 0⟩ else ⟨.ok n, n⟩

theorem good_copyOut (n cap : Nat) : Good cap (copyOut n cap) := by
  unfold copyOut
  split
  · exact good_err _ _
  · exact ⟨Nat.le_of_not_lt ‹_›, fun _ h => by cases h; rfl⟩

theorem nodeGet_eq (t : AType) (k : GKind) (size cap : Nat) :
    nodeGet t k size cap =
      if ∃ n, fixedSize t = some n ∧ cap < n then ⟨.error EOVERFLOW, 0⟩ else runGetter k size cap := by
  unfold nodeGet
  cases fixedSize t <;> simp

/-- the value's size as `xcm_attr_get` reports it: fixed-size types have their `sizeof` -/
def WellSized (t : AType) (k : GKind) (size : Nat) : Prop :=
  (∀ n, fixedSize t = some n → size = n) ∧ (∀ n, k = .fixedChecked n ∨ k = .fixedUnchecked n → size = n)

/-- `n`: the type's `sizeof` for the fixed-size idioms, else the value's size.  The one idiom that does not look at the
capacity is covered by the type-size check of `attr_node_value_get`. -/
theorem nodeGet_safe {t : AType} {k : GKind} (hs : SafeRow t k = true) (hk : k ≠ .none) (size cap : Nat) :
    ∃ n, (WellSized t k size → n = size) ∧ nodeGet t k size cap = copyOut n cap := by
  rw [nodeGet_eq]
  split
  · next hm =>
    obtain ⟨m, hm, hlt⟩ := hm
    exact ⟨m, fun h => (h.1 m hm).symm, (if_pos hlt).symm⟩
  · next hfit =>
    cases k with
    | none => exact absurd rfl hk
    | unknown => cases hs
    | strChecked | binChecked | delegate => exact ⟨size, fun _ => rfl, rfl⟩
    | fixedChecked m => exact ⟨m, fun h => (h.2 m (.inl rfl)).symm, rfl⟩
    | fixedUnchecked m =>
      have ht : fixedSize t = some m := eq_of_beq hs
      exact ⟨m, fun h => (h.2 m (.inr rfl)).symm, (if_neg fun hlt => hfit ⟨m, ht, hlt⟩).symm⟩

theorem nodeGet_good (t : AType) (k : GKind) (hs : SafeRow t k = true) (size cap : Nat) :
    Good cap (nodeGet t k size cap) := by
  by_cases hk : k = .none
  · rw [nodeGet_eq, hk]
    split <;> exact good_err _ _
  · obtain ⟨n, _, h⟩ := nodeGet_safe hs hk size cap
    rw [h]
    exact good_copyOut n cap

theorem treeGet_good (l : Lookup) (cap : Nat)
    (hl : ∀ t k w c, l = .value t k w c → SafeRow t k = true) : Good cap (treeGet l cap).1 := by
  cases l with
  | badSyntax | notFound | notValue => exact good_err _ _
  | value t k w c =>
    cases c with
    | error e =>
      simp only [treeGet]
      split
      · split <;> exact good_err _ _
      · exact good_err _ _
    | ok size => exact nodeGet_good t k (hl t k w _ rfl) size cap

/-- xcm_attr_get never writes more than `capacity` bytes, if the row it finds is safe (`C10_table_safe`: every row of
the table is) -/
theorem C10_get_within_capacity (l : Lookup) (cap : Nat)
    (hl : ∀ t k w c, l = .value t k w c → SafeRow t k = true) :
    (treeGet l cap).1.written ≤ cap := (treeGet_good l cap hl).1

/-- on success the return value is the number of bytes written -/
theorem C10_rc_is_written (l : Lookup) (cap n : Nat)
    (hl : ∀ t k w c, l = .value t k w c → SafeRow t k = true)
    (h : (treeGet l cap).1.res = .ok n) : (treeGet l cap).1.written = n := (treeGet_good l cap hl).2 n h

/-- the body that `getWithType` (`f` maps the errnos) and `getStrBin` (`f = id`) share -/
theorem good_typed {cap : Nat} {o : GetOut} (h : Good cap o) (f : Nat → Nat) (p : Prop) [Decidable p] :
    Good cap (match o.res with
      | .error e => ⟨.error (f e), o.written⟩
      | .ok n => if p then ⟨.ok n, o.written⟩ else ⟨.error ENOENT, o.written⟩) := by
  split
  · exact ⟨h.1, fun _ hn => nomatch hn⟩
  · rename_i n hr
    split
    · exact ⟨h.1, fun m hm => by cases hm; exact h.2 n hr⟩
    · exact ⟨h.1, fun _ hn => nomatch hn⟩

/-- the typed and formatted getters (`attr_get_with_type`, xcm_attr_get_str/bin) write at most their fixed or given
capacity, and on success return the count written -/
theorem C10_typed_within_capacity (l : Lookup) (req : AType) (cap : Nat)
    (hl : ∀ t k w c, l = .value t k w c → SafeRow t k = true) :
    Good cap (getWithType l req cap) ∧ Good cap (getStrBin l req cap) :=
  ⟨good_typed (treeGet_good l cap hl) _ _, good_typed (treeGet_good l cap hl) id _⟩

theorem nodeGet_wellSized {t : AType} {k : GKind} (hs : SafeRow t k = true) {size : Nat}
    (hw : WellSized t k size) (hk : k ≠ .none) (cap : Nat) :
    nodeGet t k size cap = copyOut size cap := by
  obtain ⟨n, hn, h⟩ := nodeGet_safe hs hk size cap
  cases hn hw
  exact h

/-- a value that does not fit yields EOVERFLOW and writes nothing; a typed getter of any type turns this into ENOENT -/
theorem C10_overflow_reported (t : AType) (k : GKind) (w : Bool) (size cap : Nat) (req : AType)
    (hs : SafeRow t k = true) (hw : WellSized t k size) (hk : k ≠ .none) (h : size > cap) :
    (treeGet (.value t k w (.ok size)) cap).1 = ⟨.error EOVERFLOW, 0⟩
    ∧ (getWithType (.value t k w (.ok size)) req cap) = ⟨.error ENOENT, 0⟩ := by
  have h1 : (treeGet (.value t k w (.ok size)) cap).1 = ⟨.error EOVERFLOW, 0⟩ :=
    (nodeGet_wellSized hs hw hk cap).trans (if_pos h)
  exact ⟨h1, by simp only [getWithType, h1]; rfl⟩

/-- a value that fits is returned whole -/
theorem C10_fits_returned (t : AType) (k : GKind) (w : Bool) (size cap : Nat)
    (hs : SafeRow t k = true) (hw : WellSized t k size) (hk : k ≠ .none) (h : size ≤ cap) :
    (treeGet (.value t k w (.ok size)) cap).1 = ⟨.ok size, size⟩ :=
  (nodeGet_wellSized hs hw hk cap).trans (if_neg (Nat.not_lt.mpr h))

/-- xcm_attr_set rejects without invoking the setter, so without effect: unknown names ENOENT, read-only attributes
EACCES, wrong type or length EINVAL -/
theorem C10_set_rejects_without_effect (l : Lookup) (t : AType) (len : Nat) :
    (l = .notFound → validSetLen t len = true → treeSet l t len = .rejected ENOENT)
    ∧ (∀ vt k c, l = .value vt k false c → validSetLen t len = true → treeSet l t len = .rejected EACCES)
    ∧ (∀ vt k c, l = .value vt k true c → vt ≠ t → ∃ e, treeSet l t len = .rejected e ∧ e = EINVAL)
    ∧ (validSetLen t len = false → treeSet l t len = .rejected EINVAL)
    ∧ (treeSet l t len = .invoke → ∃ k c, l = .value t k true c ∧ validSetLen t len = true) := by
  unfold treeSet
  cases validSetLen t len
  · exact ⟨fun _ => nofun, fun _ _ _ _ => nofun, fun _ _ _ _ _ => ⟨EINVAL, rfl, rfl⟩, fun _ => rfl, nofun⟩
  · refine ⟨?_, ?_, ?_, nofun, ?_⟩
    · rintro rfl _; rfl
    · rintro vt k c rfl _; rfl
    · rintro vt k c rfl hne; exact ⟨EINVAL, if_pos hne, rfl⟩
    · intro h
      cases l with
      | value vt k w c =>
        cases w
        · cases h
        · by_cases hvt : vt = t
          · exact ⟨k, c, hvt ▸ rfl, rfl⟩
          · cases (if_pos hvt).symm.trans h
      | _ => cases h

/-- the bounds `attr_path_parse` puts on an attribute name: ATTR_PATH_COMP_MAX components (the array of
`struct attr_path`), ATTR_PATH_NAME_MAX bytes (else EINVAL) -/
theorem C10_names_total (s : Bytes) :
    (∀ p, AttrPath.parse s true = some p → p.length ≤ Generated.ATTR_PATH_COMP_MAX)
    ∧ (s.length > Generated.ATTR_PATH_NAME_MAX → AttrPath.parse s true = none) :=
  ⟨fun p h => C19.C19_path_comp_bound s true p h, fun h => C19.C19_path_rejects_long s true h⟩

/-- non-vacuity: a bool into 0 and 1 bytes, an 11-byte string into 10, an int64 read as bool -/
example : (treeGet (.value .bool (.fixedUnchecked 1) true (.ok 1)) 0).1 = ⟨.error EOVERFLOW, 0⟩
    ∧ (treeGet (.value .bool (.fixedUnchecked 1) true (.ok 1)) 1).1 = ⟨.ok 1, 1⟩
    ∧ (treeGet (.value .str .strChecked false (.ok 11)) 10).1 = ⟨.error EOVERFLOW, 0⟩
    ∧ (getWithType (.value .int64 (.fixedUnchecked 8) true (.ok 8)) .bool 1) = ⟨.error ENOENT, 0⟩ := by decide

end XcmModel.C10
