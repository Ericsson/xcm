import XcmModel.TlsPolicy
import XcmModel.Lemmas.Btls
/-!
# C09 — TLS never fails open (xcm_tp_btls.c)

`C09`, the connection machine: OpenSSL performs the chain, validity, CRL, key-usage and name checks; what XCM itself
decides - for every history of calls and every answer OpenSSL can give - is what happens with the verdict (`Verified`:
the handshake call has returned success and, with tls.auth on, a certificate was presented and
`SSL_get_verify_result` was X509_V_OK).

`C09pol`: `finalize_tls_conf`, inheritance and `enable_hostname_validation` are xcm code; `accepts` is the decision they
ask of OpenSSL, a stated oracle (K-openssl-verify, observed on real OpenSSL by `sys_tls`).
-/
namespace XcmModel.C09
open XcmModel XcmModel.Btls

/-- in every reachable state: usable ⇒ verified, and any byte accepted from or delivered to the application ⇒
verified -/
theorem C09_usable_only_if_verified (auth : Bool) (ops : List Op) :
    let s := run { auth := auth } ops
    (s.state = .ready → Verified s) ∧ (s.written ≠ [] → Verified s) ∧ (s.delivered ≠ [] → Verified s) ∧
    (s.accepted ≠ [] → Verified s) := by
  have h := run_inv ops (init_inv auth)
  exact ⟨h.readyVerified, fun x => h.ioVerified (Or.inl x), fun x => h.ioVerified (Or.inr (Or.inl x)),
    fun x => h.ioVerified (Or.inr (Or.inr x))⟩

/-- in a reachable state `btls_finish` reports success only on a verified connection -/
theorem C09_finish_success_only_if_verified {s : St} (hi : Inv s) (h : HAns) (ws : List WAns) (l : Option Nat) (k : Nat) (p : Bytes)
    (hr : (finish s h ws l).2.1 = .n k p) : Verified (finish s h ws l).1 := by
  rcases (finish_main s h ws l).2 with h1 | ⟨_, _, hs⟩
  · exact Res.noConfusion (stopRes_n (h1 ▸ hr))
  · exact (step_inv hi (.fin h ws l)).readyVerified hs

/-- `SSL_write` is called at all only on a verified connection -/
theorem C09_no_write_unless_verified {s : St} (hi : Inv s) (buf : Bytes) (h : HAns) (ws : List WAns)
    (hc : (send s buf h ws).2.2 ≠ 0) : Verified (tryFinishHandshake s h) ∧ (tryFinishHandshake s h).state = .ready := by
  have hs : (tryFinishHandshake s h).state = .ready := Decidable.byContradiction fun hn => hc (by rw [(stopped rfl hn).1])
  exact ⟨(tfh_inv hi h).readyVerified hs, hs⟩

/-- xcm_receive calls `SSL_read` or (for retained output) `SSL_write`, so that plaintext can move, only on a verified
connection -/
theorem C09_no_read_unless_verified {s : St} (hi : Inv s) (cap : Nat) (h : HAns) (ws : List WAns) (r : RAns)
    (hc : (receive s cap h ws r).2.2.1 = true ∨ (receive s cap h ws r).2.2.2 ≠ 0) :
    Verified (tryFinishHandshake s h) ∧ (tryFinishHandshake s h).state = .ready := by
  have hs : (tryFinishHandshake s h).state = .ready := Decidable.byContradiction fun hn => by
    rw [(stopped rfl hn).2.1] at hc
    exact hc.elim Bool.false_ne_true fun x => x rfl
  exact ⟨(tfh_inv hi h).readyVerified hs, hs⟩

/-- policy not met: the step that completes the handshake makes the connection `bad(EPROTO)` -/
theorem C09_policy_failure_bad (s : St) (cert : CertRes) (hs : s.state = .handshaking) (ha : s.auth = true)
    (hc : cert ≠ .ok) : (tryFinishHandshake s (.done cert)).state = .bad EPROTO := by
  rw [tfh_done hs, if_neg (fun h => hc (h ha))]

/-- whichever call completes the handshake of a connection whose policy is not met reports EPROTO itself, without
SSL I/O and without accepting or delivering a byte -/
theorem C09_policy_failure_reports_EPROTO (s : St) (cert : CertRes) (hs : s.state = .handshaking) (ha : s.auth = true)
    (hc : cert ≠ .ok) :
    (∀ buf ws, (send s buf (.done cert) ws).2 = (.err EPROTO, 0) ∧ (send s buf (.done cert) ws).1.accepted = s.accepted) ∧
    (∀ cap ws r, (receive s cap (.done cert) ws r).2 = (.err EPROTO, false, 0) ∧ (receive s cap (.done cert) ws r).1.delivered = s.delivered) ∧
    (∀ ws l, (finish s (.done cert) ws l).2 = (.err EPROTO, 0)) := by
  have hb := C09_policy_failure_bad s cert hs ha hc
  have t := stopped rfl (Terminal.not_ready (Or.inr ⟨_, hb⟩))
  rw [hb] at t
  have hw := tfh_data s (.done cert)
  refine ⟨fun buf w => ?_, fun cap w r => ?_, fun w l => ?_⟩
  · rw [t.1]; exact ⟨rfl, hw.accepted⟩
  · rw [t.2.1]; exact ⟨rfl, hw.delivered⟩
  · rw [t.2.2]; rfl

/-- with tls.auth on, a connection whose peer was not accepted never transmits or delivers anything nor becomes
usable, in any continuation -/
theorem C09_rejected_peer_never_served (cert : CertRes) (hc : cert ≠ .ok) (pre post : List Op)
    (hpre : (run { auth := true } pre).state = .handshaking) (hauth : (run { auth := true } pre).auth = true) :
    let s := run (tryFinishHandshake (run { auth := true } pre) (.done cert)) post
    s.written = [] ∧ s.delivered = [] ∧ s.accepted = [] ∧ s.state = .bad EPROTO := by
  intro s
  have hi0 := run_inv pre (init_inv true)
  have hb := C09_policy_failure_bad _ cert hpre hauth hc
  have hs : s = tryFinishHandshake (run { auth := true } pre) (.done cert) := run_terminal post (Or.inr ⟨_, hb⟩)
  rw [hs]
  have hd := tfh_data (run { auth := true } pre) (.done cert)
  obtain ⟨_, hw0, hd0, _, ha0⟩ := hi0.hsOnce hpre
  exact ⟨hd.written.trans hw0, hd.delivered.trans hd0, hd.accepted.trans ha0, hb⟩

/-- non-vacuity: an accepted certificate makes the connection usable, with and without authentication -/
example : (tryFinishHandshake { auth := true } (.done .ok)).state = .ready ∧
          (tryFinishHandshake { auth := false } (.done .none)).state = .ready ∧
          (tryFinishHandshake { auth := true } (.done .rejected)).state = .bad EPROTO ∧
          (tryFinishHandshake { auth := true } (.done .none)).state = .bad EPROTO := by decide

end XcmModel.C09

namespace XcmModel.C09pol
open XcmModel XcmModel.TlsPolicy

theorem isSet_orDflt (s : Src) : isSet (orDflt s) = true := by
  cases s <;> rfl

theorem finTc_some {a st : Bool} {tc tc' : Src} (h : finTc a tc st = some tc') : a = isSet tc' := by
  cases a <;> cases tc <;> cases st <;> cases h <;> rfl

theorem finCrl_some {a cc st : Bool} {crl crl' : Src} (h : finCrl a cc crl st = some crl') :
    cc = isSet crl' ∧ (cc = true → a = true) := by
  cases a <;> cases cc <;> cases crl <;> cases st <;> cases h <;> exact ⟨rfl, by decide⟩

theorem finNames_some {vn st : Bool} {ns ns' : Option (List String)} (h : finNames vn ns st = some ns') :
    ns'.isSome = true → vn = true := by
  cases vn
  · cases ns <;> cases st <;> cases h <;> nofun
  · exact fun _ => rfl

/-- `finalize_tls_conf` leaves a complete and consistent configuration, the switches as they were; the first two
conjuncts are the `ut_assert`s after it in connect, server and accept, which so cannot fire -/
theorem C09_finalize_sound (c c' : Conf) (h : finalize c = some c') :
    c'.auth = isSet c'.tc ∧ c'.checkCrl = isSet c'.crl ∧ isSet c'.cert = true ∧ isSet c'.key = true ∧
    (c'.checkCrl = true → c'.auth = true) ∧ (c'.names.isSome = true → c'.verifyName = true) ∧
    c'.auth = c.auth ∧ c'.checkCrl = c.checkCrl ∧ c'.checkTime = c.checkTime ∧ c'.verifyName = c.verifyName ∧
    c'.tlsClient = c.tlsClient := by
  revert h
  -- 1 the three stages answer (`ht`, `hc`, `hn`: `tc`, `crl`, `names`), 2 one refuses
  fun_cases finalize c with
  | case1 _ _ _ hn hc ht =>
    rintro ⟨⟩
    exact ⟨finTc_some ht, (finCrl_some hc).1, isSet_orDflt _, isSet_orDflt _, (finCrl_some hc).2, finNames_some hn,
      rfl, rfl, rfl, rfl, rfl⟩
  | case2 => nofun

/-- the four EINVAL exits of `finalize_tls_conf` -/
theorem C09_invalid_combinations_refused (c : Conf) :
    (c.auth = false ∧ isSet c.tc = true ∧ c.tcSet = true → finalize c = none) ∧
    (c.auth = false ∧ c.checkCrl = true → finalize c = none) ∧
    (c.checkCrl = false ∧ isSet c.crl = true ∧ c.crlSet = true → finalize c = none) ∧
    (c.verifyName = false ∧ c.names.isSome = true ∧ c.namesSet = true → finalize c = none) := by
  -- `finalize` answers only where all three stages do; each combination makes its stage refuse
  fun_cases finalize c with
  | case1 _ _ _ hn hc ht =>
    refine ⟨fun h => ?_, fun h => ?_, fun h => ?_, fun h => ?_⟩
    · rw [finTc, h.1, h.2.1, h.2.2] at ht; cases ht
    · rw [finCrl, h.1, h.2] at hc; cases hc
    · rw [finCrl, h.1, h.2.1, h.2.2, Bool.and_false] at hc; cases hc
    · rw [finNames, h.1, h.2.1, h.2.2] at hn; cases hn
  | case2 => exact ⟨fun _ => rfl, fun _ => rfl, fun _ => rfl, fun _ => rfl⟩

/-- the EINVAL exits of `enable_hostname_validation` -/
theorem C09_name_verification_needs_auth_and_names (c : Conf) (a : Option String) (hv : c.verifyName = true) :
    (c.auth = false → hostnameOk c a = none) ∧ (c.names = none → a = none → hostnameOk c a = none) := by
  refine ⟨fun h => ?_, fun h1 h2 => ?_⟩
  · simp only [hostnameOk, hv]
    cases c.names <;> cases a <;> simp [h]
  · simp [hostnameOk, hv, h1, h2]

theorem setAttrs_nil (c : Conf) : setAttrs c [] = c := rfl

theorem setAttrs_frame {β : Type} (f : Conf → β) (as : List Attr) (h : ∀ a ∈ as, ∀ c, f (setAttr c a) = f c) (c : Conf) :
    f (setAttrs c as) = f c :=
  List.foldlRecOn (motive := fun d => f d = f c) as setAttr rfl fun d e a ha => (h a ha d).trans e

/-- a server socket's policy attributes govern its accepted connections unless overridden in xcm_accept_a: a switch,
`tls.tc` or the peer names that no accept attribute mentions is the server socket's -/
theorem C09_inherited_policy_governs (p : Conf) (as : List Attr) :
    ((∀ b, Attr.auth b ∉ as) → (setAttrs (inherit p) as).auth = p.auth) ∧
    ((∀ b, Attr.checkCrl b ∉ as) → (setAttrs (inherit p) as).checkCrl = p.checkCrl) ∧
    ((∀ b, Attr.checkTime b ∉ as) → (setAttrs (inherit p) as).checkTime = p.checkTime) ∧
    ((∀ b, Attr.verifyName b ∉ as) → (setAttrs (inherit p) as).verifyName = p.verifyName) ∧
    ((∀ b, Attr.client b ∉ as) → (setAttrs (inherit p) as).tlsClient = p.tlsClient) ∧
    ((∀ x, Attr.tc x ∉ as) → (setAttrs (inherit p) as).tc = p.tc ∧ (setAttrs (inherit p) as).tcSet = false) ∧
    ((∀ x, Attr.names x ∉ as) → (setAttrs (inherit p) as).names = p.names) := by
  refine ⟨fun hn => ?_, fun hn => ?_, fun hn => ?_, fun hn => ?_, fun hn => ?_, fun hn => ?_, fun hn => ?_⟩
  · exact setAttrs_frame Conf.auth as (fun a ha c => by cases a with | auth b => exact absurd ha (hn b) | _ => exact rfl) _
  · exact setAttrs_frame Conf.checkCrl as (fun a ha c => by cases a with | checkCrl b => exact absurd ha (hn b) | _ => exact rfl) _
  · exact setAttrs_frame Conf.checkTime as (fun a ha c => by cases a with | checkTime b => exact absurd ha (hn b) | _ => exact rfl) _
  · exact setAttrs_frame Conf.verifyName as (fun a ha c => by cases a with | verifyName b => exact absurd ha (hn b) | _ => exact rfl) _
  · exact setAttrs_frame Conf.tlsClient as (fun a ha c => by cases a with | client b => exact absurd ha (hn b) | _ => exact rfl) _
  · exact Prod.mk.inj (setAttrs_frame (fun c => (c.tc, c.tcSet)) as (fun a ha c => by cases a with | tc b => exact absurd ha (hn b) | _ => exact rfl) _)
  · exact setAttrs_frame Conf.names as (fun a ha c => by cases a with | names b => exact absurd ha (hn b) | _ => exact rfl) _

theorem accepts_iff (c : Conf) (t : Trust) (p : Cred) :
    accepts c t p = true ↔ (c.auth = true → chainTrusted c t p = true ∧ (c.checkTime = true → p.validity = .ok) ∧
      (c.checkCrl = true → crlOk t p = true) ∧ ekuOk c p = true ∧ nameOk c p = true) := by
  unfold accepts
  cases c.auth with
  | false => exact ⟨nofun, fun _ => rfl⟩
  | true => simp only [Bool.not_true, Bool.false_eq_true, if_false, Bool.and_eq_true, ite_eq_right_iff, beq_iff_eq, true_imp_iff, and_assoc]

/-- with authentication on, a peer is accepted only if every configured check passes -/
theorem C09_accepts_only_if_policy_met (c : Conf) (t : Trust) (p : Cred) (ha : c.auth = true) (h : accepts c t p = true) :
    chainTrusted c t p = true ∧ (c.checkTime = true → p.validity = .ok) ∧ (c.checkCrl = true → crlOk t p = true) ∧
    ekuOk c p = true ∧ nameOk c p = true :=
  (accepts_iff c t p).mp h ha

/-- each rejects: an untrusted issuer, a certificate outside its validity (unless tls.check_time is off), a failed CRL check
(with tls.check_crl), a key usage not for the peer's role, an unexpected name (with tls.verify_peer_name) -/
theorem C09_each_failure_rejects (c : Conf) (t : Trust) (p : Cred) (ha : c.auth = true) :
    (chainTrusted c t p = false → accepts c t p = false) ∧
    (c.checkTime = true → p.validity ≠ .ok → accepts c t p = false) ∧
    (c.checkCrl = true → crlOk t p = false → accepts c t p = false) ∧
    (ekuOk c p = false → accepts c t p = false) ∧
    (nameOk c p = false → accepts c t p = false) := by
  have met := C09_accepts_only_if_policy_met c t p ha
  refine ⟨fun h => ?_, fun h1 h2 => ?_, fun h1 h2 => ?_, fun h => ?_, fun h => ?_⟩ <;> apply Bool.eq_false_iff.mpr <;> intro hacc
  · exact Bool.false_ne_true (h ▸ (met hacc).1)
  · exact h2 ((met hacc).2.1 h1)
  · exact Bool.false_ne_true (h2 ▸ (met hacc).2.2.1 h1)
  · exact Bool.false_ne_true (h ▸ (met hacc).2.2.2.1)
  · exact Bool.false_ne_true (h ▸ (met hacc).2.2.2.2)

/-- a revoked leaf or intermediate, or a CA without a CRL, fails the CRL check -/
theorem C09_revocation_cases (t : Trust) (p : Cred) :
    (t.revoked.contains p.leaf = true → crlOk t p = false) ∧
    (∀ i, p.inter = some i → t.revoked.contains i = true → crlOk t p = false) ∧
    (t.crlsFor.contains p.root = false → crlOk t p = false) ∧
    (∀ i, p.inter = some i → t.crlsFor.contains i = false → crlOk t p = false) := by
  unfold crlOk
  refine ⟨fun h => ?_, fun i hi h => ?_, fun h => ?_, fun i hi h => ?_⟩
  · cases p.inter <;> simp only [h, Bool.not_true, Bool.and_false, Bool.false_and]
  · simp only [hi, h, Bool.not_true, Bool.and_false]
  · cases p.inter <;> simp only [h, Bool.false_and]
  · simp only [hi, h, Bool.and_false, Bool.false_and]

theorem chainTrusted_crl_mono (c : Conf) (t : Trust) (p : Cred)
    (h : chainTrusted { c with checkCrl := true } t p = true) : chainTrusted { c with checkCrl := false } t p = true := by
  unfold chainTrusted at h ⊢
  simp only [if_true, Bool.and_eq_true] at h
  simp only [Bool.false_eq_true, if_false]
  cases hi : p.inter with
  | none => simp only [h.2, Bool.or_true]
  | some i =>
    simp only [hi] at h
    simp only [h.1, h.2, Bool.or_true, Bool.and_true]

/-- switching a check off rejects no peer that was accepted -/
theorem C09_checks_only_restrict (c : Conf) (t : Trust) (p : Cred) :
    (accepts { c with checkTime := true } t p = true → accepts { c with checkTime := false } t p = true) ∧
    (accepts { c with checkCrl := true } t p = true → accepts { c with checkCrl := false } t p = true) ∧
    (accepts { c with verifyName := true } t p = true → accepts { c with verifyName := false } t p = true) ∧
    (accepts { c with auth := true } t p = true → accepts { c with auth := false } t p = true) := by
  simp only [accepts_iff]
  refine ⟨fun h ha => ?_, fun h ha => ?_, fun h ha => ?_, fun _ => nofun⟩
  -- a check that does not read the switch is the same before and after, by unfolding
  · obtain ⟨h1, -, h3, h4, h5⟩ := h ha
    exact ⟨h1, nofun, h3, h4, h5⟩
  · obtain ⟨h1, h2, -, h4, h5⟩ := h ha
    exact ⟨chainTrusted_crl_mono c t p h1, h2, nofun, h4, h5⟩
  · obtain ⟨h1, h2, h3, h4, -⟩ := h ha
    exact ⟨h1, h2, h3, h4, rfl⟩

/-- non-vacuity: the default policy accepts the standard credential iff its issuer is trusted -/
example : accepts {} { cas := ["verif-rootA"] } { root := "verif-rootA", leaf := "a1", names := ["a1"] } = true ∧
          accepts {} { cas := ["verif-rootB"] } { root := "verif-rootA", leaf := "a1", names := ["a1"] } = false := by decide

end XcmModel.C09pol
