import XcmModel.Lemmas.Endpoint
import XcmModel.Lemmas.Ux
/-!
# C01 — messaging transports deliver exactly the accepted messages, whole, in order

`Ep.init.run ops`, `ops` arbitrary, is any history of API calls and environment events of one `Framing` endpoint.
Assumed of the socket below (K-stream, DESIGN §3.1; for btcp/btls the conclusion of C02/C06): bytes accepted on one
side arrive on the other in order, unmodified, at most once (`hfifo : B.arrived <+: A.env.tx`).  The two ends share
nothing but that channel, so one op list per end covers every interleaving.
-/
namespace XcmModel.C01
open XcmModel.Wire XcmModel.Framing

/-- Whatever calls sender `A` and receiver `B` make and however the layer below behaves (short writes and reads,
EAGAIN, a header split at any byte, errors, end of stream at any offset), the messages consumed by `B`'s successful
receives are a prefix of those whose `send` at `A` returned success - none partial, merged, duplicated or invented -
and the *i*-th such receive returned the leading *capacity_i* bytes of the *i*-th. -/
theorem C01_exact_delivery (opsA opsB : List Op)
    (hfifo : (Ep.init.run opsB).arrived <+: (Ep.init.run opsA).env.tx) :
    (Ep.init.run opsB).fulls <+: (Ep.init.run opsA).accepted ∧
    (Ep.init.run opsB).returned =
      List.zipWith (fun m c => m.take c) (Ep.init.run opsB).fulls (Ep.init.run opsB).caps ∧
    (Ep.init.run opsB).caps.length = (Ep.init.run opsB).fulls.length := by
  have hB := recvInv_run opsB recvInv_init
  exact ⟨delivery_of_inv (sendInv_run opsA sendInv_init) hB hfifo, hB.ret, hB.lens⟩

theorem C01_no_more_than_accepted (opsA opsB : List Op)
    (hfifo : (Ep.init.run opsB).arrived <+: (Ep.init.run opsA).env.tx) :
    (Ep.init.run opsB).returned.length ≤ (Ep.init.run opsA).accepted.length := by
  obtain ⟨h1, h2, h3⟩ := C01_exact_delivery opsA opsB hfifo
  rw [h2, List.length_zipWith, h3, Nat.min_self]
  exact h1.length_le

/-- every returned buffer is the leading part of one complete accepted message of valid size, and the whole of it
when the capacity suffices -/
theorem C01_never_partial (opsA opsB : List Op)
    (hfifo : (Ep.init.run opsB).arrived <+: (Ep.init.run opsA).env.tx) (i : Nat)
    (hi : i < (Ep.init.run opsB).returned.length) :
    ∃ m c, (Ep.init.run opsA).accepted[i]? = some m ∧ (Ep.init.run opsB).caps[i]? = some c ∧
      (Ep.init.run opsB).returned[i]? = some (m.take c) ∧ Valid m ∧
      (m.length ≤ c → (Ep.init.run opsB).returned[i]? = some m) := by
  obtain ⟨h1, h2, _⟩ := C01_exact_delivery opsA opsB hfifo
  rw [h2] at hi ⊢
  obtain ⟨m, c, hm, hc, hr⟩ := List.getElem?_zipWith_eq_some.mp (List.getElem?_eq_getElem hi)
  have hret := (List.getElem?_eq_getElem hi).trans (congrArg some hr.symm)
  obtain ⟨hif, rfl⟩ := List.getElem?_eq_some_iff.mp hm
  exact ⟨_, c, List.prefix_iff_getElem?.mp h1 i hif, hc, hret,
    (recvInv_run opsB recvInv_init).valid _ (List.getElem_mem hif), fun hl => List.take_of_length_le hl ▸ hret⟩

/-- non-vacuity: a frame that leaves in three pieces and arrives cut inside its header -/
example :
    let A := Ep.init.run [.send [7, 8, 9] [.ok 1], .finish [.ok 5] none, .finish [.ok 9] none]
    let B := Ep.init.run [.arrive [0, 0], .receive 10 [], .arrive [0, 3, 7], .receive 10 [],
                          .arrive [8, 9], .receive 10 []]
    A.accepted = [[7, 8, 9]] ∧ A.env.tx = [0, 0, 0, 3, 7, 8, 9] ∧ B.arrived = A.env.tx ∧
      B.returned = [[7, 8, 9]] ∧ B.results = [.err EAGAIN, .err EAGAIN, .msg [7, 8, 9] [7, 8, 9]] := by
  decide

/-- ux/uxf, any interleaving of sends (accepted, or refused by the size checks or by the kernel), receives (any
capacity; failing at will) and finishes: the receives returned, in order, the leading `capacity` bytes of the messages
whose send succeeded, and what is not yet delivered is exactly what the kernel still queues.  (A receive with capacity
0 consumes its record and returns 0: `returned` holds its empty payload.)  K-seqpacket (DESIGN §3.1): the kernel's
queue is the FIFO `chan`. -/
theorem C01_ux_exact_delivery (steps : List Ux.Step) :
    let L := (({} : Ux.Link).run steps)
    L.returned = List.zipWith (fun m c => m.take c) (L.accepted.take L.returned.length) L.caps
    ∧ L.returned.length ≤ L.accepted.length
    ∧ L.accepted = L.accepted.take L.returned.length ++ L.chan := by
  intro L
  have h : Ux.Inv L := Ux.inv_run steps _ Ux.inv_init
  have ht : L.accepted.take L.returned.length = L.fulls := by
    rw [h.ret_length, h.acc]; simp
  refine ⟨?_, ?_, ?_⟩
  · rw [ht]; exact h.ret
  · rw [h.ret_length, h.acc]; simp
  · rw [ht]; exact h.acc

/-- non-vacuity: a truncated and a whole delivery with a refused send in between -/
example :
    let L := (({} : Ux.Link).run [.send [1,2,3] none, .send [9] (some 11), .recv 2 none, .send [4,5] none,
                                   .recv 10 (some 11), .recv 10 none])
    L.returned = [[1,2], [4,5]] ∧ L.accepted = [[1,2,3], [4,5]] ∧ L.chan = [] := by decide

end XcmModel.C01
