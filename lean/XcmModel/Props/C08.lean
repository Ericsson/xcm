import XcmModel.Life
import XcmModel.Generated.Owner
/-!
# C08 — no resource leaks or double releases on any lifecycle path (ladders of xcm.c)

The scripts of environment answers let any call fail at any point with any errno, an attribute fail, a blocking accept
restart on EAGAIN any number of times and a blocking finish make up to 64 rounds (the model's fuel).  The ledger counts
socket structures, xpoll instances and transport states held; a release of what is not held counts in `badRelease`.
That the transports clean up after themselves is the contract of xcm_tp.h, exercised on the real transports by sys_life.
-/
namespace XcmModel.C08
open XcmModel.Life

theorem rel_succ (n b : Nat) : rel (n + 1) b = (n, b) := rfl

theorem run_nil (l : Ledger) : l.run [] = l := rfl
theorem run_cons (l : Ledger) (e : Ev) (t : List Ev) : l.run (e :: t) = (l.apply e).run t := rfl

theorem run_append (l : Ledger) (a b : List Ev) : l.run (a ++ b) = (l.run a).run b :=
  List.foldl_append

def Neutral (e : Ev) : Prop := ∀ l : Ledger, l.apply e = l

theorem run_neutral (l : Ledger) (es : List Ev) (h : ∀ e ∈ es, Neutral e) : l.run es = l :=
  List.foldlRecOn (motive := (· = l)) es Ledger.apply rfl fun _ hl e he => hl.symm ▸ h e he l

theorem run_append_neutral (l : Ledger) (a n : List Ev) (hn : ∀ e ∈ n, Neutral e) : l.run (a ++ n) = l.run a := by
  rw [run_append, run_neutral _ n hn]

theorem run_skip (l : Ledger) (a n b : List Ev) (hn : ∀ e ∈ n, Neutral e) : l.run (a ++ n ++ b) = l.run (a ++ b) := by
  rw [run_append, run_append_neutral l a n hn, ← run_append]

theorem finishLoop_neutral (fuel : Nat) (as : List Ans) : ∀ e ∈ (finishLoop fuel as).2, Neutral e := by
  fun_induction finishLoop fuel as with
  | case1 => exact List.forall_mem_nil _
  | case2 | case4 => exact List.forall_mem_singleton.2 fun _ => rfl
  | case3 _ _ _ _ _ h _ ih =>
    rw [h] at ih
    exact List.forall_mem_cons.2 ⟨fun _ => rfl, List.forall_mem_cons.2 ⟨fun _ => rfl, ih⟩⟩

structure Same (l l' : Ledger) : Prop where
  sock : l'.sock = l.sock
  xpoll : l'.xpoll = l.xpoll
  tp : l'.tp = l.tp
  bad : l'.badRelease = l.badRelease

structure Plus1 (l l' : Ledger) : Prop where
  sock : l'.sock = l.sock + 1
  xpoll : l'.xpoll = l.xpoll + 1
  tp : l'.tp = l.tp + 1
  bad : l'.badRelease = l.badRelease

/-- the outcome of a creation ladder: NULL = nothing held, a socket = one of each held -/
def Balanced (l : Ledger) (res : Option Nat) (evs : List Ev) : Prop :=
  match res with
  | some _ => Same l (l.run evs)
  | none => Plus1 l (l.run evs)

/-- `Same` and `Plus1` are equations between ledgers; on a concrete event list both sides compute -/
theorem Same.of_eq {l l' : Ledger} (h : l' = l) : Same l l' := h ▸ ⟨rfl, rfl, rfl, rfl⟩

theorem Plus1.of_eq {l l' : Ledger} (h : l' = l.run [.sockAcq, .xpollAcq, .initOk]) : Plus1 l l' := h ▸ ⟨rfl, rfl, rfl, rfl⟩

theorem Balanced.append_left {l : Ledger} {a b : List Ev} {res : Option Nat} (h : l.run a = l) (hb : Balanced l res b) :
    Balanced l res (a ++ b) := by
  unfold Balanced
  rw [run_append, h]
  exact hb

/-- `xcm_connect(_a)` / `xcm_server(_a)`, whatever fails on the way -/
theorem C08_create_balanced (l : Ledger) (k : Kind) (blocking badAttr : Bool) (as : List Ans) :
    Balanced l (create k blocking badAttr as).1 (create k blocking badAttr as).2 := by
  -- with the record explicit, the ledger of each path's concrete event list is computed
  -- (1-4: xpoll_create, init, the attribute, connect/server fails; 5, 6: a blocking connect's finish fails, succeeds; 7: none is made)
  obtain ⟨s, x, t, b⟩ := l
  fun_cases create k blocking badAttr as with
  | case1 | case2 | case3 => exact Same.of_eq rfl
  | case4 => cases k <;> exact Same.of_eq rfl
  | case5 _ _ _ r3 _ hk e fe hf =>
    -- of the finish loop, whatever rounds it makes, only the neutrality of its events is used
    have hn := hf ▸ finishLoop_neutral 64 r3
    cases k
    · exact Same.of_eq ((run_skip _ _ fe _ hn).trans rfl)
    · cases hk
  | case6 _ _ _ r3 _ hk fe hf =>
    have hn := hf ▸ finishLoop_neutral 64 r3
    cases k
    · exact Plus1.of_eq ((run_append_neutral _ _ fe hn).trans rfl)
    · cases hk
  | case7 => cases k <;> exact Plus1.of_eq rfl

/-- the wait a blocking accept makes before it asks the transport is no event of the ledger -/
theorem run_pre (l : Ledger) (blocking : Bool) (es : List Ev) :
    l.run ((if blocking then [.sockAcq, .xpollAcq, .wait] else [.sockAcq, .xpollAcq]) ++ es) = l.run (.sockAcq :: .xpollAcq :: es) := by
  cases blocking <;> rfl

/-- `xcm_accept(_a)`, whatever the bound `fuel` on its EAGAIN restarts -/
theorem C08_accept_balanced (blocking badAttr : Bool) (fuel : Nat) :
    ∀ (l : Ledger) (as : List Ans), Balanced l (accept blocking badAttr fuel as).1 (accept blocking badAttr fuel as).2 := by
  intro l as
  -- 1: the fuel is spent; 2-4, 6: as 1-4 of `create`; 5: EAGAIN in blocking mode, the restart; 7-9: as 5-7 of `create`
  fun_induction accept blocking badAttr fuel as generalizing l with obtain ⟨s, x, t, b⟩ := l
  | case1 | case2 => exact Same.of_eq rfl
  | case3 | case4 | case6 =>
    exact Same.of_eq ((run_pre ..).trans rfl)
  | case5 =>
    -- the abandoned attempt leaves the ledger as it was, then the restart is balanced
    rename_i ih
    rw [‹accept blocking badAttr _ _ = _›] at ih
    exact Balanced.append_left ((run_pre ..).trans rfl) (ih _)
  | case7 _ _ _ _ _ _ r3 hb _ fe h =>
    have hn := h ▸ finishLoop_neutral 64 r3
    subst hb
    exact Same.of_eq ((run_skip _ _ fe _ hn).trans rfl)
  | case8 _ _ _ _ _ _ r3 hb fe h =>
    have hn := h ▸ finishLoop_neutral 64 r3
    subst hb
    exact Plus1.of_eq ((run_append_neutral _ _ fe hn).trans rfl)
  | case9 =>
    exact Plus1.of_eq ((run_pre ..).trans rfl)

/-- `xcm_close` / `xcm_cleanup` of a live socket -/
theorem C08_close_balanced (l : Ledger) (cleanup : Bool) (hs : 0 < l.sock) (hx : 0 < l.xpoll) (ht : 0 < l.tp) :
    let l' := l.run (closeEvs cleanup)
    l'.sock = l.sock - 1 ∧ l'.xpoll = l.xpoll - 1 ∧ l'.tp = l.tp - 1 ∧ l'.badRelease = l.badRelease := by
  obtain ⟨sk, xp, tp, b⟩ := l
  obtain ⟨s, rfl⟩ := Nat.exists_eq_add_one.2 hs
  obtain ⟨x, rfl⟩ := Nat.exists_eq_add_one.2 hx
  obtain ⟨t, rfl⟩ := Nat.exists_eq_add_one.2 ht
  cases cleanup <;> exact ⟨rfl, rfl, rfl, rfl⟩

inductive Op where
  | create (k : Kind) (blocking badAttr : Bool) (as : List Ans)
  | accept (blocking badAttr : Bool) (as : List Ans)
  | close (cleanup : Bool)              -- of some live socket (ignored when there is none)

structure Sys where
  led : Ledger := {}
  live : Nat := 0

def sysStep (s : Sys) : Op → Sys
  | .create k b a as =>
    let r := create k b a as
    { led := s.led.run r.2, live := if r.1.isNone then s.live + 1 else s.live }
  | .accept b a as =>
    let r := Life.accept b a 64 as
    { led := s.led.run r.2, live := if r.1.isNone then s.live + 1 else s.live }
  | .close c => if s.live = 0 then s else { led := s.led.run (closeEvs c), live := s.live - 1 }

def SysInv (s : Sys) : Prop := s.led.sock = s.live ∧ s.led.xpoll = s.live ∧ s.led.tp = s.live ∧ s.led.badRelease = 0

theorem SysInv.step {s : Sys} (h : SysInv s) {res : Option Nat} {evs : List Ev} (b : Balanced s.led res evs) :
    SysInv { led := s.led.run evs, live := if res.isNone then s.live + 1 else s.live } := by
  obtain ⟨h1, h2, h3, h4⟩ := h
  cases res with
  | some e => exact ⟨b.sock.trans h1, b.xpoll.trans h2, b.tp.trans h3, b.bad.trans h4⟩
  | none =>
    exact ⟨b.sock.trans (congrArg (· + 1) h1), b.xpoll.trans (congrArg (· + 1) h2), b.tp.trans (congrArg (· + 1) h3), b.bad.trans h4⟩

theorem sysStep_inv (s : Sys) (op : Op) (h : SysInv s) : SysInv (sysStep s op) := by
  cases op with
  | create k b a as => exact h.step (C08_create_balanced s.led k b a as)
  | accept b a as => exact h.step (C08_accept_balanced b a 64 s.led as)
  | close c =>
    obtain ⟨h1, h2, h3, h4⟩ := h
    show SysInv (if s.live = 0 then s else _)
    split
    · exact ⟨h1, h2, h3, h4⟩
    · next hl =>
      have hl := Nat.pos_of_ne_zero hl
      obtain ⟨c1, c2, c3, c4⟩ := C08_close_balanced s.led c (h1 ▸ hl) (h2 ▸ hl) (h3 ▸ hl)
      exact ⟨c1.trans (congrArg (· - 1) h1), c2.trans (congrArg (· - 1) h2), c3.trans (congrArg (· - 1) h3), c4.trans h4⟩

/-- after every history of creation, accept, close and cleanup calls with arbitrary failures the ledger holds one socket
structure, one xpoll and one transport state per live socket, nothing was released that was not held, and with every
socket closed nothing is held -/
theorem C08_histories_balanced (ops : List Op) :
    let s := ops.foldl sysStep {}
    s.led.sock = s.live ∧ s.led.xpoll = s.live ∧ s.led.tp = s.live ∧ s.led.badRelease = 0 ∧
    (s.live = 0 → s.led = {}) := by
  have h : SysInv (ops.foldl sysStep {}) := List.foldlRecOn ops sysStep ⟨rfl, rfl, rfl, rfl⟩ fun _ h o _ => sysStep_inv _ o h
  generalize ops.foldl sysStep {} = s at h ⊢
  obtain ⟨⟨sk, xp, tp, bad⟩, live⟩ := s
  obtain ⟨rfl, rfl, rfl, rfl⟩ : sk = live ∧ xp = live ∧ tp = live ∧ bad = 0 := h
  exact ⟨rfl, rfl, rfl, rfl, fun h0 => by subst h0; rfl⟩

/-- non-vacuity: a blocking accept restarted twice that then fails in finish holds nothing -/
example : (({} : Ledger).run (Life.accept true false 8 [none, none, some EAGAIN, none, none, some EAGAIN, none, none, none, some 104]).2) = {} := by decide +kernel

/-! Cleanup locality at the source level (`Generated/Owner.lean`, extracted by extract/ext_owner.py).  `xcm_cleanup` in a
forked child reaches the destructors with `owner = false`; the epoll instances and the files on disk are shared with
the owner, so on that path no xpoll registration may be changed and nothing unlinked. -/

/-- every call that changes a shared object inside a function with an `owner` parameter is under an `if (owner ...)` -/
theorem C08_cleanup_sites_guarded : ∀ s ∈ Generated.ownerSites, s.guarded = true := by decide

/-- every callee that takes the `owner` flag gets it unchanged or a literal `false`, or the call is itself under the guard -/
theorem C08_cleanup_delegations_pass_owner :
    ∀ d ∈ Generated.ownerDelegations, d.arg = "owner" ∨ d.arg = "false" ∨ d.guarded = true := by decide +kernel

/-- every call into the destructors from a function without an owner parameter passes a literal, the `*_cleanup`
operations (what `xcm_cleanup` reaches through `xcm_tp_socket_cleanup`) `false` -/
theorem C08_cleanup_entries_pass_false :
    ∀ e ∈ Generated.ownerEntries, (e.arg = "true" ∨ e.arg = "false") ∧ (e.isCleanup = true → e.arg = "false") := by decide +kernel

/-- non-vacuity of the `isCleanup` conjunct -/
example : (Generated.ownerEntries.filter (·.isCleanup)).length ≥ 4 := by decide

/-- non-vacuity: the table covers the control interface and the timers -/
example : Generated.ownerSites.length ≥ 9 ∧ "remove_client" ∈ Generated.ownerFunctions ∧ "timer_mgr_destroy" ∈ Generated.ownerFunctions := by
  decide +kernel

end XcmModel.C08
