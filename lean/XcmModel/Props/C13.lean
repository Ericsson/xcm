import XcmModel.Lemmas.Tconnect
import XcmModel.DnsSync
/-
  C13 - name resolution and multi-address connect follow the selected algorithm.

  A run of a track (`runTrack`) is a list of environment scripts, one per call of `track_get_connected_fd`.
  Assumed of the environment: the tokens stand for what the kernel reports for the current attempt; that this reflects
  what the remote address does is outside XCM.
-/
namespace XcmModel.C13
open XcmModel.Tconnect

def runTrack (t0 : Track) (scripts : List (List Tok)) : Track :=
  scripts.foldl (fun t s => (trackGetFd t s []).1) t0

theorem runTrack_good (t0 : Track) (h : Good t0) (scripts : List (List Tok)) :
    Good (runTrack t0 scripts) ∧ Same (runTrack t0 scripts) t0 :=
  List.foldlRecOn (motive := fun t => Good t ∧ Same t t0) scripts _ ⟨h, Same.refl _⟩ fun t ht s _ =>
    have h1 := trackGetFd_good t s [] ht.1
    ⟨h1.1, Same.trans h1.2 ht.2⟩

/-- every track that `tconnect_connect` creates and any later poll leaves is `Good` -/
theorem reachable_good (addrs : List Fam) (fd4 fd6 hl delay : Bool) (s0 : List Tok) (scripts : List (List Tok)) :
    Good (runTrack (trackCreate addrs fd4 fd6 hl delay s0 []).1 scripts) :=
  (runTrack_good _ (trackCreate_good addrs fd4 fd6 hl delay s0 []).1 scripts).1

/-- **"sequential" ends up connected to the first address in list order that accepts**: if a track is connected to
address `i`, every attempt before it failed and every earlier address of a usable family was attempted, whatever the
timing and the errnos -/
theorem C13_sequential_first_accepting (t : Track) (hg : Good t)
    (hc : t.state = .connected ∨ t.state = .finished) :
    ∃ init i, t.tried = init ++ [(i, .ok)] ∧ t.cur = some i ∧ AllFailed init
      ∧ (∀ j, j < i → j < t.addrs.length → supports t (famAt t j) = true → j ∈ init.map (·.1)) := by
  have key : ∃ init i, t.tried = init ++ [(i, .ok)] ∧ AllFailed init ∧ t.cur = some i := by
    have hsh := hg.shape
    rcases hc with hc | hc <;> simp only [Shape, hc] at hsh <;> exact hsh
  obtain ⟨init, i, htr, hfail, hcur⟩ := key
  refine ⟨init, i, htr, hcur, hfail, fun j hj1 hj2 hj3 => ?_⟩
  have hi : i < t.next := (hg.sound (i, .ok) (htr ▸ List.mem_concat_self)).1
  have := hg.complete j (Nat.lt_trans hj1 hi) hj2 hj3
  rw [htr, List.map_append, List.mem_append] at this
  exact this.resolve_right fun h => Nat.ne_of_lt hj1 (List.mem_singleton.mp h)

/-- **the errno of a failed connect is that of the last failed attempt, ENOENT when nothing could be attempted**; failure
is reported only after every usable address has been attempted and failed -/
theorem C13_errno_of_last_failure (t : Track) (hg : Good t) (hb : t.state = .bad) :
    AllFailed t.tried ∧ t.bad = (if lastErr t.tried = 0 then ENOENT else lastErr t.tried)
    ∧ (∀ j, j < t.addrs.length → supports t (famAt t j) = true → j ∈ t.tried.map (·.1)) := by
  have hsh := hg.shape
  simp only [Shape, hb] at hsh
  exact ⟨hsh.1, hsh.2.1, fun j h1 h2 => hsh.2.2.1 j h1 h1 h2⟩

/-- a timed-out attempt counts as a failure with ETIMEDOUT (`tcp.connect_timeout`): the timer token `x` while connecting
to the last address leaves the track `bad` with that errno -/
theorem C13_timeout_is_etimedout (t : Track) (s : List Tok) (tr : List String) (init : List (Nat × Att)) (i : Nat)
    (hs : t.state = .connecting) (htr : t.tried = init ++ [(i, .pending)]) (hx : (pop s).1 = .x) (hn : t.next ≥ t.addrs.length) :
    (procConnecting t s tr).1.state = .bad ∧ (procConnecting t s tr).1.bad = ETIMEDOUT := by
  unfold procConnecting
  rw [if_pos hs]
  simp only [hx, if_true, abort_fields]
  -- no address is left: `track_connect_next` gives up with the errno just recorded (not 0, so it stands)
  simp only [connectNext, findNext, List.getElem?_eq_none_iff.mpr hn]
  exact ⟨trivial, if_neg (by decide)⟩

/-- **"single" tries only the first address** -/
theorem C13_single_first_only (addrs : List Fam) (hl : Bool) (s0 : List Tok) (scripts : List (List Tok)) :
    let tc := (tcConnect .single addrs hl s0).1
    ∀ t ∈ tc.tracks, ∀ p ∈ (runTrack t scripts).tried, p.1 = 0 := by
  intro tc t ht p hp
  simp only [tc, tcConnect, List.mem_singleton] at ht
  subst ht
  have hc := trackCreate_good (addrs.take 1) true true hl false s0 []
  have hg := runTrack_good _ hc.1 scripts
  have hs := (hg.1.sound p hp).2.1
  rw [hg.2.1, hc.2.1, List.length_take, Nat.lt_min] at hs
  exact Nat.lt_one_iff.mp hs.1

/-- while a track waits for a connection attempt its descriptor is registered for EPOLLOUT and the attempt's timer armed;
while it waits out the Happy Eyeballs delay that timer is: no wake-up is lost while connecting (C04 uses it) -/
theorem C13_waiting_is_watched (t : Track) (hg : Good t) :
    (t.state = .connecting → t.reg = true ∧ t.timer = true) ∧ (t.state = .initialDelay → t.timer = true) := by
  have hsh := hg.shape
  constructor
  · intro hs
    simp only [Shape, hs] at hsh
    obtain ⟨_, _, _, _, _, htm, hreg, _⟩ := hsh
    exact ⟨hreg, htm⟩
  · intro hs
    simp only [Shape, hs] at hsh
    exact hsh.2.1

/-- **xcm_server / a named local address on an unresolvable name fails instead of hanging** (F-13a): the synchronous
resolution loop ends at the first answer that is not EAGAIN, with that errno (ENOENT for a failed or timed-out lookup) -/
theorem C13_resolve_sync_terminates (pre : List DnsSync.QAns) (e : Nat) (rest : List DnsSync.QAns)
    (hpre : ∀ a ∈ pre, a = .again ∨ a = .fail DnsSync.EAGAIN) (he : e ≠ DnsSync.EAGAIN) :
    DnsSync.resolveSync false (pre ++ .fail e :: rest) = (.err e, pre.length + 1)
    ∧ DnsSync.resolveSync false (pre ++ .resolved :: rest) = (.ok, pre.length + 1) := by
  have key : ∀ (n : Nat) (tail : List DnsSync.QAns), DnsSync.loop (pre ++ tail) n = DnsSync.loop tail (n + pre.length) := by
    induction pre with
    | nil => intro n tail; simp
    | cons a t ih =>
      intro n tail
      -- `n + (t.length + 1) = (n + 1) + t.length`
      rw [List.length_cons, ← Nat.add_assoc, Nat.add_right_comm, ← ih (fun b hb => hpre b (List.mem_cons_of_mem _ hb))]
      rcases hpre a List.mem_cons_self with rfl | rfl
      · rfl
      · exact if_pos rfl
  simp [DnsSync.resolveSync, key, DnsSync.loop, he]  -- the loop on its first answer past `pre`

/-- non-vacuity: the first address refuses at once, the second times out, the third accepts -/
example :
    let t := runTrack (trackCreate [.v4, .v4, .v4] true true true false [.ip, .err 111, .ip, .ip] []).1
      [[.ip, .ip], [.x, .ip, .ip], [.ip, .ok]]
    t.state = .finished ∧ t.tried = [(0, .failed 111), (1, .failed ETIMEDOUT), (2, .ok)] := by decide

end XcmModel.C13

namespace XcmModel.C13tc
open XcmModel.Tconnect

theorem trackGetFd_err (t : Track) (s : List Tok) (tr : List String) {e : Nat} :
    (trackGetFd t s tr).2.1 = .err e → e = EAGAIN ∨ (trackGetFd t s tr).1.state = .bad := by
  fun_cases trackGetFd t s tr with
  | case1 | case2 => exact fun h => Or.inl (FdRes.err.inj h).symm  -- connecting, initialDelay
  | case4 t1 s1 tr1 hp hst => exact fun _ => Or.inr hst  -- bad
  | _ => nofun

/-- `tcGetFdLoop` returns (tracks, descriptor, script, trace, `in_progress`, `fatal_errno`, assertion hit): a pass without
descriptor or progress leaves every track bad -/
theorem loop_all_failed (ts : List Track) {s tr ip fa} : ∀ {ts' s' tr' fa'},
    tcGetFdLoop ts s tr ip fa = (ts', none, s', tr', false, fa', false) → ip = false ∧ ∀ t ∈ ts', t.state = .bad := by
  -- 1 no track left; 2 a descriptor, 3 an assertion (neither has the result's shape); 4 this track says `.err e`
  fun_induction tcGetFdLoop ts s tr ip fa with
  | case1 => intro _ _ _ _ h; cases h; exact ⟨rfl, fun t ht => nomatch ht⟩
  | case4 t _ s tr _ _ _ _ _ e _ _ hif _ _ _ _ _ _ _ hl hp ih =>
    -- `hp`: the track's answer, `hif`: what `e` made of the two flags, `hl`: the rest of the pass
    intro _ _ _ _ h; cases h
    have herr := @trackGetFd_err t s tr e
    rw [hp] at herr
    obtain ⟨hip, hrest⟩ := ih hl
    by_cases he : e = EAGAIN
    · -- the rest of the loop ran with `inprog` set
      rw [if_pos he] at hif; cases hif; cases hip
    · rw [if_neg he] at hif; cases hif
      exact ⟨hip, List.forall_mem_cons.mpr ⟨(herr rfl).resolve_left he, hrest⟩⟩
  | _ => nofun

/-- **`tconnect_get_connected_fd` reports a failure only when every track has failed**: while a track of either family
is connecting or waiting out its delay the answer is EAGAIN, so one family's failure cannot mask the other's success -/
theorem C13_tc_fails_only_when_all_tracks_failed (tc : TC) (s : List Tok) (e : Nat)
    (h : (tcGetFd tc s).2.1 = .err e) (he : e ≠ EAGAIN) : ∀ t ∈ (tcGetFd tc s).1.tracks, t.state = .bad := by
  revert h
  fun_cases tcGetFd tc s with
  | case1 _ f _ _ inprog _ ab hl =>
    intro h
    cases ab with
    | true => cases h
    | false =>
      cases f with
      | some fam => cases h
      | none =>
        cases inprog with
        | true => exact absurd (FdRes.err.inj h).symm he
        | false => exact (loop_all_failed _ hl).2

/-- Happy Eyeballs: one track per address family in the answer, each confined to its own family's descriptor -/
theorem C13_happy_one_track_per_family (addrs : List Fam) (hl : Bool) (s : List Tok) :
    let tc := (tcConnect .happy addrs hl s).1
    tc.tracks.length = (if addrs.any (· == .v4) then 1 else 0) + (if addrs.any (· == .v6) then 1 else 0) ∧
    (∀ t ∈ tc.tracks, (t.fd4 = true ∧ t.fd6 = false) ∨ (t.fd4 = false ∧ t.fd6 = true)) := by
  unfold tcConnect
  simp only
  generalize addrs.any (· == .v4) = has4
  generalize addrs.any (· == .v6) = has6
  cases has4 <;> cases has6
  · exact ⟨rfl, fun t ht => nomatch ht⟩
  · exact ⟨rfl, List.forall_mem_singleton.mpr (Or.inr (trackCreate_good _ _ _ _ _ _ _).2.2)⟩
  · exact ⟨rfl, List.forall_mem_singleton.mpr (Or.inl (trackCreate_good _ _ _ _ _ _ _).2.2)⟩
  · exact ⟨rfl, List.forall_mem_cons.mpr ⟨Or.inl (trackCreate_good _ _ _ _ _ _ _).2.2,
      List.forall_mem_singleton.mpr (Or.inr (trackCreate_good _ _ _ _ _ _ _).2.2)⟩⟩

end XcmModel.C13tc
