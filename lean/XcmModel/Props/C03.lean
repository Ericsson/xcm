import XcmModel.Props.C01
import XcmModel.Lemmas.Api
import XcmModel.Lemmas.Btls
/-!
# C03 — a failed send leaves no trace; a successful send is delivered exactly once
(framing layer: tcp, tls; ux/uxf; the blocking wrapper `msg_bsend` + `socket_finish` of xcm.c; the TLS byte stream)
-/
namespace XcmModel.C03
open XcmModel.Framing XcmModel.C01

/-- a zero-length or over-long message is refused with EINVAL / EMSGSIZE in every state (bad or not, a frame
pending or not), and nothing changes -/
theorem C03_size_checks_first (s : St) (env : Env) (m : Bytes) (ans : List SAns) :
    (m.length > Generated.MBUF_MSG_MAX → send s env m ans = (s, env, .err EMSGSIZE, ans)) ∧
    (m.length = 0 → send s env m ans = (s, env, .err EINVAL, ans)) := by
  constructor
  · intro h; simp [send, h]
  · intro h; simp [send, h]

/-- a `send` that fails with EAGAIN leaves the state a `finish` with the same lower-layer answers would have left,
whatever the message, which was copied nowhere -/
theorem C03_eagain_is_finish (s : St) (env : Env) (m m' : Bytes) (ans : List SAns)
    (hr : (send s env m ans).2.2.1 = .err EAGAIN) (hb : s.bad = none)
    (hm : 1 ≤ m.length ∧ m.length ≤ Generated.MBUF_MSG_MAX)
    (hm' : 1 ≤ m'.length ∧ m'.length ≤ Generated.MBUF_MSG_MAX) :
    (send s env m ans).1 = (finish s env ans none).1 ∧
    (send s env m ans).2.1 = (finish s env ans none).2.1 ∧
    ((send s env m' ans).2.2.1 = .err EAGAIN ∧ (send s env m' ans).1 = (send s env m ans).1) := by
  obtain ⟨s1, env1, ans1, h1⟩ := send_eagain hm hb hr
  rw [send_busy hm hb h1, send_busy hm' hb h1, finish_busy hb h1]
  exact ⟨rfl, rfl, rfl, rfl⟩

/-- a bad connection refuses, and neither state nor lower layer changes -/
theorem C03_bad_refuses (s : St) (env : Env) (m : Bytes) (ans : List SAns) (e : Nat) (hb : s.bad = some e) :
    (send s env m ans).1 = s ∧ (send s env m ans).2.1 = env :=
  send_cases (motive := fun r => r.1 = s ∧ r.2.1 = env) s env m ans (fun _ => ⟨rfl, rfl⟩)
    (fun _ h => nomatch hb.symm.trans h) (fun _ h => nomatch hb.symm.trans h)

theorem accepted_only_ok (e : Ep) (m : Bytes) (ans : List SAns) :
    (e.step (.send m ans)).accepted =
      if (send e.s e.env m ans).2.2.1 = .ok then e.accepted ++ [m] else e.accepted := by
  simp only [Ep.step]

/-- for any histories of the two ends (FIFO channel) the receiver's complete messages are, position by position,
those of the sender's successful sends (`accepted_only_ok`): one whose send returned -1 is never delivered, an
accepted one occupies exactly one position -/
theorem C03_only_accepted_delivered_once (opsA opsB : List Op)
    (hfifo : (Ep.init.run opsB).arrived <+: (Ep.init.run opsA).env.tx) (i : Nat)
    (m : Bytes) (hi : (Ep.init.run opsB).fulls[i]? = some m) :
    (Ep.init.run opsA).accepted[i]? = some m := by
  obtain ⟨hlt, rfl⟩ := List.getElem?_eq_some_iff.mp hi
  exact List.prefix_iff_getElem?.mp (C01_exact_delivery opsA opsB hfifo).1 i hlt

/-- non-vacuity, buffered and then a connection failure: the second send returns -1 after its frame was partly
written, and is not in `accepted` -/
example :
    let A := Ep.init.run [.send [1] [.ok 9], .send [2, 3] [.ok 3, .err Generated.ECONNRESET],
      .finish [.ok 9] none, .send [4] [.ok 9]]
    A.accepted = [[1]] ∧ A.env.tx = [0, 0, 0, 1, 1, 0, 0, 0] ∧
    A.results = [.ok, .err Generated.ECONNRESET, .err Generated.ECONNRESET, .err Generated.ECONNRESET] := by
  decide

/-- ux/uxf: a failing `ux_send` (EMSGSIZE, EINVAL for an empty message, EAGAIN, EINTR or any other kernel errno)
leaves the state as it was and hands nothing to the kernel, so it is never delivered (`C01_ux_exact_delivery`) -/
theorem C03_ux_failed_send_no_trace (s : Ux.St) (m : Bytes) (k : Ux.KSend) (e : Nat)
    (h : (Ux.send s m k).2.1 = .err e) : (Ux.send s m k).1 = s ∧ (Ux.send s m k).2.2 = none :=
  Ux.send_err s m k e h

/-- ux/uxf: the size checks precede the kernel call in every state -/
theorem C03_ux_size_checks_first (s : Ux.St) (m : Bytes) (k : Ux.KSend)
    (h : m.length = 0 ∨ m.length > Generated.UX_MAX_MSG) :
    ∃ e, (Ux.send s m k) = (s, .err e, none) ∧ (e = Framing.EINVAL ∨ e = Framing.EMSGSIZE) := by
  -- 1 too long, 2 empty; 3, 4 neither
  fun_cases Ux.send s m k with
  | case1 => exact ⟨_, rfl, Or.inr rfl⟩
  | case2 => exact ⟨_, rfl, Or.inl rfl⟩
  | case3 h1 h2 | case4 h1 h2 => exact (h.elim h2 h1).elim

/-- `msg_bsend` + `socket_finish` of xcm.c: however transport and poll behave, if a blocking `xcm_send` of a message
fails, the transport accepted nothing during the call or the errno is not EINTR (the flush itself failed).  A signal
never turns an accepted message into a failed send: excludes F-03a. -/
theorem C03_blocking_send_no_false_failure (len : Nat) (script : List Api.Ans) (e : Nat)
    (h : (Api.send { blocking := true, bytestream := false } len script).1 = .err e) :
    Api.accSends (Api.send { blocking := true, bytestream := false } len script).2 = 0 ∨ e ≠ Api.EINTR := by
  rw [Api.send_blocking_msg] at h ⊢
  have hb := Api.msgBsend_acc (Api.fuelOf script) len script []
  have hf := Api.finishAfter_spec (Api.msgBsend (Api.fuelOf script) len script [])
  rcases hf.2.2.2 e h with h1 | ⟨_, h2⟩
  · exact Or.inl (hf.2.1.trans (hb.2 e h1))
  · exact Or.inr h2

/-- a successful blocking `xcm_send` of a message was accepted by the transport exactly once -/
theorem C03_blocking_send_accepted_once (len : Nat) (script : List Api.Ans) (n : Nat)
    (h : (Api.send { blocking := true, bytestream := false } len script).1 = .rc n) :
    Api.accSends (Api.send { blocking := true, bytestream := false } len script).2 = 1 := by
  rw [Api.send_blocking_msg] at h ⊢
  have hb := Api.msgBsend_acc (Api.fuelOf script) len script []
  have hf := Api.finishAfter_spec (Api.msgBsend (Api.fuelOf script) len script [])
  exact hf.2.1.trans (hb.1 n (hf.2.2.1 n h))

end XcmModel.C03

/-! The TLS byte stream below the tls messaging transport: "finished" means handed to OpenSSL. -/
namespace XcmModel.C03btls
open XcmModel.Btls

/-- `btls_finish` reports success only when no output is retained: a message whose last bytes the TLS layer took
over is not reported as sent (by xcm_finish, hence by a blocking xcm_send) before they have been handed to OpenSSL;
EAGAIN from the flush is passed on -/
theorem C03_btls_finish_success_means_flushed (s : St) (h : HAns) (ws : List WAns) (l : Option Nat) (k : Nat) (p : Bytes)
    (hr : (finish s h ws l).2.1 = .n k p) : (finish s h ws l).1.pend = [] ∧ l = none := by
  rcases (finish_main s h ws l).2 with h1 | ⟨h1, hp, _⟩
  · exact Res.noConfusion (stopRes_n (h1 ▸ hr))
  · refine ⟨hp, ?_⟩
    cases l with
    | none => rfl
    | some e => rw [h1] at hr; cases hr

/-- while output is retained and the flush cannot complete, `btls_finish` says EAGAIN, not 0 -/
theorem C03_btls_retained_means_not_finished (s : St) (e : SslEv) (hs : s.state = .ready) (hp : s.pend ≠ [])
    (he : e = .wantRead ∨ e = .wantWrite) (l : Option Nat) :
    (finish s (.done .ok) [.ev e] l).2.1 = .err EAGAIN := by
  rw [finish_ready (tfh_idle (ready_ne_hs hs) _) hs l
    (flushAll_blocked hp e [] fun t => t.not_ready (by rcases he with rfl | rfl <;> exact hs))]
  rfl

end XcmModel.C03btls

