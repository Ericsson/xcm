import XcmModel.Lemmas.Api
import XcmModel.Generated.Sites
/-
  C05 - non-blocking sockets never put the calling thread to sleep (wrapper level).

  `Api` models xcm.c, whose data path waits in `socket_wait` only (`poll` on the socket's xpoll descriptor without
  timeout): `Call.wait` in the model's trace.  The tables of `Generated/Sites.lean` are extracted from the source by
  extract/ext_sites.py.
-/
namespace XcmModel.C05
open XcmModel.Api

/-- xcm_send, xcm_receive, xcm_finish, xcm_await on a non-blocking socket never wait, nor does xcm_set_blocking to the
mode the socket has -/
theorem C05_nonblocking_no_wait (bs : Bool) (len cap cond : Nat) (script : List Ans) :
    let sk : Sock := { blocking := false, bytestream := bs }
    hasWait (send sk len script).2 = false ∧ hasWait (receive sk cap script).2 = false
    ∧ hasWait (finish sk script).2 = false ∧ hasWait (await sk cond).2 = false
    ∧ hasWait (setBlocking sk false script).2.2 = false := by
  intro sk
  refine ⟨?_, ?_, ?_, rfl, rfl⟩
  · simp only [send]; cases (next script).1 <;> rfl
  · simp only [receive]; cases (next script).1 <;> rfl
  · simp only [finish]; cases (next script).1 <;> rfl

/-- EAGAIN from the transport is returned to the application, not waited out -/
theorem C05_eagain_is_reported (bs : Bool) (len : Nat) (t : List Ans) :
    (send { blocking := false, bytestream := bs } len (.err EAGAIN :: t)).1 = .err EAGAIN
    ∧ (receive { blocking := false, bytestream := bs } len (.err EAGAIN :: t)).1 = .err EAGAIN
    ∧ (finish { blocking := false, bytestream := bs } (.err EAGAIN :: t)).1 = .err EAGAIN :=
  ⟨rfl, rfl, rfl⟩

/-- xcm_await and xcm_finish, which a blocking socket may not use, fail with EINVAL without a call below -/
theorem C05_await_finish_refused_when_blocking (bs : Bool) (cond : Nat) (script : List Ans) :
    (await { blocking := true, bytestream := bs } cond) = (.err EINVAL, [])
    ∧ (finish { blocking := true, bytestream := bs } script) = (.err EINVAL, []) :=
  ⟨rfl, rfl⟩

open Generated

/-- every waiting primitive of the library polls with timeout 0 or is in one of the two blocking helpers, `socket_wait`
(xcm.c) and `xcm_dns_resolve_sync` -/
theorem C05_wait_sites :
    ∀ w ∈ waitSites, w.zeroTimeout = true ∨ w.func = "socket_wait" ∨ w.func = "xcm_dns_resolve_sync" := by decide +kernel

/-- every socket descriptor (`socket`, `accept4`, `ut_accept`; eventfd, timerfd and epoll descriptors are not in the
table) is created non-blocking (`ut_accept` passes its caller's flags on) -/
theorem C05_sock_sites_nonblocking :
    ∀ s ∈ sockSites, s.nonblock = true ∨ s.func = "ut_accept" := by decide +kernel

/-- the blocking helpers of xcm.c are reached only from each other, from a branch guarded by
`is_blocking`, or from xcm_set_blocking's switch to blocking mode (a request to block) -/
def helperOk (h : HelperCall) : Bool :=
  h.guard == "blocking"
  || (h.func == "xcm_set_blocking" && h.guard == "notblocking")
  || (h.func == "socket_finish" || h.func == "msg_bsend" || h.func == "bytestream_bsend")   -- helper calling helper

/-- every call of a blocking helper is guarded, but for the synchronous resolution of the server address in
`btcp_server`, which only xcm_server(_a) reaches (not among the calls the property constrains) -/
theorem C05_helper_calls_guarded :
    ∀ h ∈ helperCalls, helperOk h = true ∨ (h.callee = "xcm_dns_resolve_sync" ∧ h.func = "btcp_server") := by
  decide +kernel

end XcmModel.C05
