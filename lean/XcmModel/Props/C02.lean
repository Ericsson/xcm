import XcmModel.Lemmas.Btls
import XcmModel.Lemmas.Btcp
import XcmModel.Lemmas.Api
/-!
# C02 — byte-stream transports deliver exactly the accepted bytes, in order

The kernel's answer to each `send()` / `recv()` is an input of `Btcp`: every statement holds for all patterns of
short writes and reads, EAGAIN and errors.  K-stream (DESIGN §3.1) alone links the two ends: `B.rxd <+: A.tx`.
-/
namespace XcmModel.C02
open XcmModel.Btcp

/-- for `len > 0`, `xcm_send` returns a value in `1..len` or -1 -/
theorem C02_rc_range (s : St) (buf : Bytes) (est : List EstAns) (k : KSend) (hl : 0 < buf.length)
    (n : Nat) (p : Bytes) (h : (send s buf est k).2 = .n n p) : 1 ≤ n ∧ n ≤ buf.length := by
  rcases send_spec s buf est k with ⟨st, e, hs⟩ | ⟨m, hm, hp, hs⟩ <;> rw [hs] at h
  · cases h
  · cases h
    exact ⟨hp hl, hm⟩

/-- `xcm_receive` returns at most `capacity` bytes, and exactly those it reports -/
theorem C02_capacity (s : St) (cap : Nat) (est : List EstAns) (k : KRecv) (n : Nat) (p : Bytes)
    (h : (receive s cap est k).2 = .n n p) : n ≤ cap ∧ p.length = n := by
  rcases receive_spec s cap est k with ⟨st, r, hs, rfl | ⟨e, rfl⟩⟩ | ⟨got, hg, hs⟩ <;> rw [hs] at h
  · cases h
    exact ⟨Nat.zero_le cap, rfl⟩
  · cases h
  · cases h
    exact ⟨hg, rfl⟩

/-- a send that returns -1 (EAGAIN included, in any state) hands no byte to the kernel -/
theorem C02_failed_call_no_trace (s : St) (buf : Bytes) (est : List EstAns) (k : KSend) (e : Nat)
    (h : (send s buf est k).2 = .err e) : (send s buf est k).1.tx = s.tx := by
  rcases send_spec s buf est k with ⟨st, e', hs⟩ | ⟨n, _, _, hs⟩
  · rw [hs]
  · cases hs ▸ h

/-- btcp, any histories of the two ends, under K-stream: what the receiver's `xcm_receive` calls returned,
concatenated, is a prefix of the ranges the sender's `xcm_send` calls reported as accepted, and all of them once
everything the sender's kernel took has been read. -/
theorem C02_btcp_prefix (stA stB : CState) (opsA opsB : List Op)
    (hk : ((Conn.init stB).run opsB).s.rxd <+: ((Conn.init stA).run opsA).s.tx) :
    ((Conn.init stB).run opsB).returned <+: ((Conn.init stA).run opsA).accepted ∧
    (((Conn.init stB).run opsB).s.rxd = ((Conn.init stA).run opsA).s.tx →
      ((Conn.init stB).run opsB).returned = ((Conn.init stA).run opsA).accepted) := by
  have hA := inv_run opsA (c := Conn.init stA) ⟨rfl, rfl⟩
  have hB := inv_run opsB (c := Conn.init stB) ⟨rfl, rfl⟩
  rw [← hA.tx, ← hB.rx]
  exact ⟨hk, fun h => h⟩

/-- non-vacuity: a 5-byte send accepted as 2 bytes, a refused retry, then the rest -/
example :
    let A := (Conn.init .ready).run [.send [1, 2, 3, 4, 5] [] (.ok 2), .send [3, 4, 5] [] (.err EAGAIN),
      .send [9, 9] [] (.err EAGAIN), .send [3, 4, 5] [] (.ok 99)]
    A.accepted = [1, 2, 3, 4, 5] ∧ A.s.tx = [1, 2, 3, 4, 5] ∧
    A.results = [.n 2 [], .err EAGAIN, .err EAGAIN, .n 3 []] := by
  decide

/-- `bytestream_bsend` of xcm.c: however the transport (short counts, EAGAIN, errors) and poll (readiness, EINTR)
behave, a blocking `xcm_send` on a byte stream returns the number of bytes the transport accepted during the call -/
theorem C02_bsend_accounting (len : Nat) (script : List Api.Ans) (n : Nat)
    (h : (Api.send { blocking := true, bytestream := true } len script).1 = .rc n) :
    Api.accBytes (Api.send { blocking := true, bytestream := true } len script).2 = n := by
  rw [Api.send_blocking_bytestream] at h ⊢
  have hb := Api.bsend_acc (Api.fuelOf script) len 0 script [] rfl
  have hf := Api.finishAfter_spec (Api.bytestreamBsend (Api.fuelOf script) len 0 script [])
  rw [hf.1]
  exact hb.1 n (hf.2.2.1 n h)

/-- non-vacuity: 7000 bytes in three short rounds with an EAGAIN in between -/
example : (Api.send { blocking := true, bytestream := true } 7000 [.ok 3000, .err 11, .ok 1, .ok 3000, .ok 3000]).1 = .rc 7000 := by
  decide

end XcmModel.C02

/-! btls (xcm_tp_btls.c).  That OpenSSL carries `written` unchanged to the peer's `SSL_read`, provided an SSL_write that
could not complete is repeated with the same bytes, is assumed (K-openssl-stream; probed end to end by sys_stream). -/
namespace XcmModel.C02btls
open XcmModel.Btls

/-- in every reachable state what was accepted is what was handed to OpenSSL followed by what is retained (nothing
is lost, duplicated or reordered inside XCM), and the counters are the lengths of these streams -/
theorem C02_btls_accepted_is_written_plus_retained (auth : Bool) (ops : List Op) :
    let s := run { auth := auth } ops
    s.accepted = s.written ++ s.pend ∧ s.cnt.fromApp = s.accepted.length ∧ s.cnt.toLower = s.written.length ∧
    s.cnt.toApp = s.delivered.length ∧ s.cnt.fromLower = s.delivered.length := by
  have h := run_inv ops (init_inv auth)
  exact ⟨h.acc, h.cntW.1, h.cntW.2, h.cntD.1, h.cntD.2⟩

/-- for len > 0 xcm_send returns 1..len and adds exactly that prefix of its buffer to the accepted stream; a failing
call (EAGAIN included) adds nothing -/
theorem C02_btls_send_accepts_prefix (s : St) (buf : Bytes) (h : HAns) (ws : List WAns) (hl : 0 < buf.length) :
    (∀ k p, (send s buf h ws).2.1 = .n k p → 1 ≤ k ∧ k ≤ buf.length ∧ (send s buf h ws).1.accepted = s.accepted ++ buf.take k) ∧
    (∀ e, (send s buf h ws).2.1 = .err e → (send s buf h ws).1.accepted = s.accepted) := by
  rcases (send_main s buf h ws).2 with ⟨hr, ha⟩ | ⟨k, hr, hk, h1, ha, _⟩ <;> rw [hr]
  · exact ⟨fun k p hn => Res.noConfusion (stopRes_n hn), fun _ _ => ha⟩
  · exact ⟨fun k' p hn => (by cases hn; exact ⟨h1 hl, hk, ha⟩), nofun⟩

/-- a flush with fuel for all the retained bytes that reports success leaves nothing retained.  (That `send` hands
OpenSSL a new buffer only then is the premise `s.pend = []` of `Micro.wrote` and `Micro.retain` in `send_main`.) -/
theorem C02_btls_retry_discipline (fuel : Nat) (s : St) (ws : List WAns) :
    (flushPending fuel s ws).2.1 = none → s.pend.length < fuel → (flushPending fuel s ws).1.pend = [] :=
  fun h hl => by
    have f := (flushPending_spec (P := fun _ => True) fuel s ws hl (fun _ _ => trivial)).out
    rw [h] at f
    exact f.1

/-- xcm_receive returns at most `capacity` bytes, and exactly what it appends to the delivered stream (the flush
before the read moves no received data) -/
theorem C02_btls_capacity (s : St) (cap : Nat) (h : HAns) (ws : List WAns) (r : RAns) (k : Nat) (p : Bytes)
    (hr : (receive s cap h ws r).2.1 = .n k p) :
    k ≤ cap ∧ p.length = k ∧ (receive s cap h ws r).1.delivered = s.delivered ++ p := by
  rcases (receive_main s cap h ws r).2.2 with ⟨h1, hd⟩ | ⟨g, hg, h1, hd, _⟩
  · cases stopRes_n (h1 ▸ hr)
    rw [List.append_nil]; exact ⟨Nat.zero_le _, rfl, hd⟩
  · rw [h1] at hr; cases hr; exact ⟨hg, rfl, hd⟩

/-- xcm_receive leaves the accepted stream alone: its flush only moves retained bytes to OpenSSL -/
theorem C02_btls_receive_keeps_accepted (auth : Bool) (ops : List Op) (cap : Nat) (h : HAns) (ws : List WAns) (r : RAns) :
    let s := run { auth := auth } ops
    let s' := (receive s cap h ws r).1
    s'.accepted = s.accepted ∧ s'.accepted = s'.written ++ s'.pend := by
  intro s s'
  exact ⟨(receive_main s cap h ws r).2.1, (step_inv (run_inv ops (init_inv auth)) (.recv cap h ws r)).acc⟩

end XcmModel.C02btls
