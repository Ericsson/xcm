import XcmModel.Lemmas.Btls
import XcmModel.Lemmas.Endpoint
import XcmModel.Props.C01  -- relay: gen/props/C06.py audits `C01_never_partial` through Props.C06
/-!
# C07 — hostile or corrupt wire input cannot harm or mislead the receiver

Model and invariants of C01; the arrived byte stream is arbitrary (`Op.arrive seg` for any `seg`, any segmentation):
the peer is not assumed to be XCM.  Last, garbage during or instead of the TLS handshake, or inside the record stream
(xcm_tp_btls.c, as far as OpenSSL's report of it goes).  C-level memory safety is covered only as far as the model's
one `abort` outcome (`mbuf_wire_ensure_capacity`) and the ASan/UBSan correspondence runs go.
-/
namespace XcmModel.C07
open XcmModel.Wire XcmModel.Framing XcmModel.C01

/-- the assertion of `mbuf_wire_ensure_capacity` cannot fire -/
theorem receive_not_abort {e : Ep} (h : RecvInv e) (cap : Nat) (ans : List SAns) :
    Res.isAbort (receive e.s e.env cap ans).2.2.1 = false :=
  (receive_spec e.s e.env cap ans h.rbuf h.segs).noAbort

/-- whatever bytes arrive, however fragmented, the receive buffer never holds more than one maximum-size frame and
no call trips the assertion of `mbuf_wire_ensure_capacity` -/
theorem C07_bounded_buffer (ops : List Op) :
    (Ep.init.run ops).s.rbuf.length ≤ Generated.MBUF_HDR_LEN + Generated.MBUF_MSG_MAX ∧
    ∀ r ∈ (Ep.init.run ops).results, Res.isAbort r = false := by
  have h := safeInv_run ops ⟨recvInv_init, List.forall_mem_nil _⟩
  -- `MBUF_WIRE_MAX`, the invariant's bound, is the number `MBUF_HDR_LEN + MBUF_MSG_MAX`
  exact ⟨h.recv.bound, h.noAbort⟩

/-- the well-formed frames at the head of a byte stream, up to the first malformed header or incomplete frame;
`fuel = b.length` suffices, a frame taking at least its header -/
def refDecode : Nat → Bytes → List Bytes
  | 0, _ => []
  | fuel + 1, b =>
    if b.length < 4 then []
    else if !hdrValid (rd32 b) then []
    else if b.length < 4 + rd32 b then []
    else (b.drop 4).take (rd32 b) :: refDecode fuel (b.drop (4 + rd32 b))

theorem refDecode_frame (m t : Bytes) (hm : Valid m) (fuel : Nat) :
    refDecode (fuel + 1) (frame m ++ t) = m :: refDecode fuel t := by
  have e1 : rd32 (frame m ++ t) = m.length := rd32_frame_append m (valid_lt hm) _
  have c2 : hdrValid m.length = true := by
    simp only [hdrValid, Bool.and_eq_true, decide_eq_true_eq]; exact hm
  have c3 : ¬ (frame m ++ t).length < 4 + m.length := by simp
  have c1 : ¬ (frame m ++ t).length < 4 := mt (Nat.lt_add_right _) c3
  -- `drop 4` computes, the header being a list of four terms
  have e2 : ((frame m ++ t).drop 4).take m.length = m := List.take_left
  have e3 : (frame m ++ t).drop (4 + m.length) = t := by
    rw [← frame_length m]; exact List.drop_left' rfl
  simp only [refDecode, c1, e1, c2, c3, if_false, Bool.not_true, Bool.false_eq_true, e2, e3]

theorem refDecode_frames (ms : List Bytes) (r : Bytes) (hv : ∀ m ∈ ms, Valid m) (fuel : Nat)
    (hf : ms.length ≤ fuel) : ms <+: refDecode fuel (frames ms ++ r) := by
  induction ms generalizing fuel with
  | nil => exact List.nil_prefix
  | cons m ms ih =>
    cases fuel with
    | zero => simp at hf
    | succ f =>
      rw [frames_cons, List.append_assoc, refDecode_frame m _ (hv m List.mem_cons_self)]
      exact (List.prefix_cons_inj m).mpr
        (ih (fun x hx => hv x (List.mem_cons_of_mem _ hx)) f (Nat.le_of_succ_le_succ hf))

/-- the messages delivered are the leading well-formed frames of the arrived byte stream, in order (a prefix of the
reference decoding: the receiver may not have consumed everything yet), each of a legal length, and what was returned
is the leading `capacity` bytes of each -/
theorem C07_reference_decoder (ops : List Op) :
    let B := Ep.init.run ops
    B.fulls <+: refDecode B.arrived.length B.arrived ∧
    (∀ m ∈ B.fulls, 1 ≤ m.length ∧ m.length ≤ Generated.MBUF_MSG_MAX) ∧
    B.returned = List.zipWith (fun m c => m.take c) B.fulls B.caps := by
  intro B
  have h : RecvInv B := recvInv_run ops recvInv_init
  refine ⟨?_, h.valid, h.ret⟩
  rw [h.stream, List.append_assoc]
  apply refDecode_frames _ _ h.valid
  -- every frame has its header, so there are no more frames than bytes
  have : ∀ ms : List Bytes, ms.length ≤ (frames ms).length := by
    intro ms
    induction ms with
    | nil => simp
    | cons m ms ih => simp only [frames_cons, List.length_cons, List.length_append, frame_length]; omega
  rw [List.length_append]
  exact Nat.le_add_right_of_le (this B.fulls)

/-- with no frame pending for the lower layer, a complete header announcing an illegal length (0 or more than
the maximum) makes the next receive fail with EPROTO and marks the connection bad -/
theorem C07_illegal_length_eproto (s : St) (env : Env) (cap : Nat)
    (hb : s.bad = none) (hs : s.sbuf = []) (h4 : s.rbuf.length = 4) (hinv : hdrValid (rd32 s.rbuf) = false) :
    (receive s env cap []).2.2.1 = .err EPROTO ∧ (receive s env cap []).1.bad = some EPROTO := by
  simp [receive, hb, tryFinishSend, tfs_idle _ _ _ hs, bufferMsg_hdr s env (Nat.le_of_eq h4.symm),
    bufferPayload_invalid s env hinv]

/-- once the connection is bad (EPROTO), every later call reports that errno (a send of illegal size its size
error) and the state never changes again -/
theorem C07_eproto_sticky (s : St) (env : Env) (e : Nat) (hb : s.bad = some e) :
    (∀ cap ans, receive s env cap ans = (s, env, .err e, ans)) ∧
    (∀ ans fin, finish s env ans fin = (s, env, .err e, ans)) ∧
    (∀ m ans, (send s env m ans).1 = s ∧ (send s env m ans).2.1 = env ∧
      ((send s env m ans).2.2.1 = .err e ∨ (send s env m ans).2.2.1 = .err EMSGSIZE ∨
       (send s env m ans).2.2.1 = .err EINVAL)) := by
  refine ⟨fun cap ans => by simp only [receive, hb], fun ans fin => by simp only [finish, hb], fun m ans => ?_⟩
  simp only [send, hb]
  split; · exact ⟨rfl, rfl, Or.inr (Or.inl rfl)⟩
  split; · exact ⟨rfl, rfl, Or.inr (Or.inr rfl)⟩
  exact ⟨rfl, rfl, Or.inl rfl⟩

/-- non-vacuity: a zero-length header between two valid frames -/
example :
    let B := Ep.init.run [.arrive [0, 0, 0, 1, 65, 0, 0], .arrive [0, 0, 0, 0, 0, 1, 66],
      .receive 9 [], .receive 9 [], .receive 9 [], .send [1] [.ok 9]]
    B.results = [.msg [65] [65], .err EAGAIN, .err EPROTO, .err EPROTO] ∧
      refDecode B.arrived.length B.arrived = [[65]] := by
  decide

end XcmModel.C07

namespace XcmModel.C07btls
open XcmModel.Btls

/-- what OpenSSL reports for undecodable input: SSL_ERROR_SSL, or SSL_ERROR_SYSCALL with a queued error -/
def ProtoErr : SslEv → Prop
  | .sslErr => True
  | .syscall _ q => q = true
  | _ => False

theorem pse_proto (s : St) (c : Nat) (e : SslEv) (h : ProtoErr e) : (processSslEvent s c e).state = .bad EPROTO := by
  cases e with
  | sslErr => rfl
  | syscall _ q => obtain rfl : q = true := h; rfl
  | _ => exact h.elim

/-- garbage during (or instead of) the handshake: whichever call drives the handshake reports EPROTO and the
connection is bad(EPROTO); no SSL I/O is made -/
theorem C07_btls_handshake_garbage (s : St) (e : SslEv) (hs : s.state = .handshaking) (he : ProtoErr e) :
    (tryFinishHandshake s (.ev e)).state = .bad EPROTO ∧
    (∀ buf w, (send s buf (.ev e) w).2 = (.err EPROTO, 0)) ∧
    (∀ cap w r, (receive s cap (.ev e) w r).2 = (.err EPROTO, false, 0)) ∧
    (∀ w l, (finish s (.ev e) w l).2 = (.err EPROTO, 0)) := by
  have hb : (tryFinishHandshake s (.ev e)).state = .bad EPROTO := by
    rw [tfh_ev hs]
    exact pse_proto _ _ _ he
  have t := stopped rfl (Terminal.not_ready (Or.inr ⟨_, hb⟩))
  rw [hb] at t
  exact ⟨hb, fun buf w => congrArg Prod.snd (t.1 buf w), fun cap w r => congrArg Prod.snd (t.2.1 cap w r),
    fun w l => congrArg Prod.snd (t.2.2 w l)⟩

/-- garbage inside the record stream of an established connection: the receive that meets it reports EPROTO and
delivers nothing (`hf`: the flush before the read has not itself ended the connection; if it has, that is what is
reported, see C06) -/
theorem C07_btls_record_garbage (s : St) (cap : Nat) (h : HAns) (ws : List WAns) (e : SslEv) (hs : s.state = .ready)
    (hf : (flushPending (s.pend.length + 1) s ws).1.state = .ready) (he : ProtoErr e) :
    (receive s cap h ws (.ev e)).2.1 = .err EPROTO ∧ (receive s cap h ws (.ev e)).1.state = .bad EPROTO ∧
    (receive s cap h ws (.ev e)).1.delivered = s.delivered := by
  have hb : (failed (flushAll s ws).1 RECEIVABLE (some e)).state = .bad EPROTO := pse_proto _ _ _ he
  rw [(receive_ready (tfh_idle (ready_ne_hs hs) h) hs cap (.ev e) rfl).2 (fun t => t.not_ready hf), readStep_ev, hb]
  exact ⟨rfl, rfl, (frame_failed _ _ _).delivered.trans (flushAll_spec s ws).core.delivered⟩

example : (flushPending 1 ({ state := .ready } : St) []).1.state = .ready := by decide

/-- the assertion of `process_ssl_event` (`St.aborted`) does not fire, whatever OpenSSL answers under
K-openssl-eagain; the run starts after one handshake step: `WInv.hsWants` fails of the initial state -/
theorem C07_btls_no_abort (auth : Bool) (h0 : HAns) (ops : List Op) (hh : HOk h0) (ho : ∀ op ∈ ops, OpOk op) :
    (run (tryFinishHandshake { auth := auth } h0) ops).aborted = false :=
  (run_winv ops (tfh_winv_of_hs h0 hh rfl rfl) ho).noAbort

end XcmModel.C07btls
