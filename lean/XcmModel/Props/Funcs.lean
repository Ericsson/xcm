import XcmModel.Generated.Funcs
import XcmModel.Ux
import XcmModel.Wire
import XcmModel.AttrAccess
import XcmModel.TcpOpts
import XcmModel.Xpoll
import XcmModel.AttrPath
/-!
The translated functions (extract/ext_funcs.py: clang's AST of /repo's working tree, regenerated on every run) equal the
hand-written model functions, for all arguments.  A change of the C function changes `Generated/Funcs.lean`, and its
theorem below stops checking.
-/
namespace XcmModel.FuncsTie
open XcmModel XcmModel.Generated

/-- xcm_tp_ux.c -/
theorem conn_event_tie (c : Nat) : Funcs.conn_event c = Ux.connEvent c := by
  unfold Funcs.conn_event Ux.connEvent
  simp only [decide_eq_true_eq]
  -- `1 <<< 0`, `1 <<< 1` are the numerals `XCM_SO_RECEIVABLE`, `XCM_SO_SENDABLE`: both sides make the same two tests
  change (if c &&& Generated.XCM_SO_RECEIVABLE ≠ 0 then (if c &&& Generated.XCM_SO_SENDABLE ≠ 0 then _ else _)
    else (if c &&& Generated.XCM_SO_SENDABLE ≠ 0 then _ else _)) = _
  split <;> split <;> rfl

/-- xcm_tp_ux.c -/
theorem server_event_tie (c : Nat) : Funcs.server_event c = Ux.serverEvent c := by
  simp only [Funcs.server_event, decide_eq_true_eq]
  rfl

/-- mbuf.h; on a complete header, of the length field -/
theorem mbuf_is_hdr_valid_tie (len : Nat) : Funcs.mbuf_is_hdr_valid true len = Wire.hdrValid len := rfl

theorem mbuf_is_hdr_valid_incomplete (len : Nat) : Funcs.mbuf_is_hdr_valid false len = false := rfl

/-- the value type an `enum xcm_attr_type` code denotes (codes as the compiler sees them) -/
def typeOfCode (c : Nat) : AType :=
  match (Funcs.xcm_attr_type_code.find? (fun p => p.1 == c)).map (·.2) with
  | some "bool" => .bool | some "int64" => .int64 | some "double" => .double
  | some "str" => .str | some "bin" => .bin | _ => .unknown

/-- attr_tree.c; for every type code, valid or not -/
theorem valid_set_attr_len_tie (t len : Nat) :
    Funcs.valid_set_attr_len t len = AttrAccess.validSetLen (typeOfCode t) len := by
  -- for each code both sides reduce to the same test on `len`; from 6 on both tables fall through
  match t with
  | 0 | 1 | 2 | 3 | 4 | 5 | _ + 6 => rfl

/-- tcp_attr.c; on the fields of two option sets (non-negative: the setters see to it).  With `C11.optsEqual_iff`:
`tcp_opts_equal` is equality. -/
theorem tcp_opts_equal_tie (a b : TcpOpts.Opts)
    (ha : 0 ≤ a.time ∧ 0 ≤ a.interval ∧ 0 ≤ a.count ∧ 0 ≤ a.userTimeout)
    (hb : 0 ≤ b.time ∧ 0 ≤ b.interval ∧ 0 ≤ b.count ∧ 0 ≤ b.userTimeout) :
    Funcs.tcp_opts_equal a.keepalive b.keepalive a.time.toNat b.time.toNat a.interval.toNat b.interval.toNat
      a.count.toNat b.count.toNat a.userTimeout.toNat b.userTimeout.toNat = TcpOpts.optsEqual a b := by
  have e : ∀ x y : Int, 0 ≤ x → 0 ≤ y → decide (x.toNat = y.toNat) = (x == y) := fun x y hx hy =>
    decide_eq_decide.2 ⟨fun h => (Int.toNat_of_nonneg hx).symm.trans ((congrArg _ h).trans (Int.toNat_of_nonneg hy)), fun h => h ▸ rfl⟩
  simp only [Funcs.tcp_opts_equal, TcpOpts.optsEqual, e, ha, hb]

/-- xpoll.c: growth of the registration tables -/
theorem next_capacity_tie (c : Nat) : Funcs.next_capacity c = Xpoll.nextCapacity c := rfl

/-- attr_path.c, on every byte -/
theorem is_special_tie : ∀ n < 256, Funcs.is_special n = AttrPath.isSpecial (UInt8.ofNat n) := by
  decide +kernel

/-- attr_path.c; the translator makes the result of the callee `is_special` a parameter -/
theorem is_key_char_tie : ∀ n < 256,
    Funcs.is_key_char n (Funcs.is_special n) = AttrPath.isKeyChar (UInt8.ofNat n) :=
  fun n h => congrArg (!·) (is_special_tie n h)

end XcmModel.FuncsTie
